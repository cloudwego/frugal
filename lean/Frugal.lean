/- every module of the library, so that `lake build Frugal` checks them all:
   the model and its specification -/
import Frugal.Basic
import Frugal.Facts
import Frugal.Skeleton
import Frugal.Buffer
import Frugal.DescMap
import Frugal.UnknownIdx
import Frugal.Wire
import Frugal.Schema
import Frugal.Alloc
import Frugal.Bitset
import Frugal.BuildCache
import Frugal.Encode
import Frugal.Generated
import Frugal.TypeKey
import Frugal.Decode
import Frugal.Tags
import Frugal.Valid
import Frugal.Proto
import Frugal.Reader
import Frugal.Norm
import Frugal.Views
/- proofs: shared layers -/
import Frugal.Proofs.Outcome
import Frugal.Proofs.BigEndian
import Frugal.Proofs.ValidFacts
import Frugal.Proofs.TypedInduct
import Frugal.Proofs.WireRT
import Frugal.Proofs.SerFacts
/- proofs: encoder and size -/
import Frugal.Proofs.EncodeRefine
import Frugal.Proofs.SizeExact
import Frugal.Proofs.BufferLemmas
/- proofs: values on the wire -/
import Frugal.Proofs.ToWireDefs
import Frugal.Proofs.Holders
import Frugal.Proofs.StripH
import Frugal.Proofs.ToWire
import Frugal.Proofs.Strict
import Frugal.Proofs.Cells
/- proofs: skipper and decoder -/
import Frugal.Proofs.SkipEqns
import Frugal.Proofs.SkipCorrect
import Frugal.Proofs.SkipSound
import Frugal.Proofs.DecodeEqns
import Frugal.Proofs.DecodeSafe
import Frugal.Proofs.DecodeRefine
import Frugal.Proofs.DecodeSound
import Frugal.Proofs.DecodeErrors
/- proofs: reader -/
import Frugal.Proofs.ReaderInd
import Frugal.Proofs.ReaderProps
import Frugal.Proofs.ReaderPlain
import Frugal.Proofs.ReadHelpers
import Frugal.Proofs.OptDefaults
import Frugal.Proofs.ReqEverywhere
import Frugal.Proofs.DepthProps
import Frugal.Proofs.DepthBound
import Frugal.Proofs.FuelMono
import Frugal.Proofs.HoldersRead
import Frugal.Proofs.ReadUnk
import Frugal.Proofs.ViewsLemmas
import Frugal.Proofs.ReadTyped
/- proofs: two runs of the reader -/
import Frugal.Proofs.Erase
import Frugal.Proofs.ReaderRel
import Frugal.Proofs.TailIndep
import Frugal.Proofs.KnownOnly
import Frugal.Proofs.EraseTail
import Frugal.Proofs.ClearNocopy
import Frugal.Proofs.FieldOrder
/- proofs: round trip -/
import Frugal.Proofs.RoundTripHolder
import Frugal.Proofs.ReadNormH
import Frugal.Proofs.RoundTrip
import Frugal.Proofs.NormFacts
import Frugal.Proofs.NocopyRoundTrip
/- proofs: tag language -/
import Frugal.Proofs.TagsOk
import Frugal.Proofs.TagsSpec
import Frugal.Proofs.TagsSpell
/- proofs: caches and small state machines -/
import Frugal.Proofs.BuildCacheLemmas
import Frugal.Proofs.BuildCacheMixed
import Frugal.Proofs.DescMapLemmas
import Frugal.Proofs.TypeKeyLemmas
import Frugal.Proofs.AllocLemmas
import Frugal.Proofs.BitsetLemmas
import Frugal.Proofs.UnknownIdxLemmas
/- the tables of the unchanged tree, with the proof that they are valid -/
import Frugal.Reference
/- the regenerated obligations, one per module -/
import Frugal.Props.Inst.F_facts_allocationDiscipline
import Frugal.Props.Inst.F_facts_bufferContract
import Frugal.Props.Inst.F_facts_buildProtocol
import Frugal.Props.Inst.F_facts_decodeNeverWritesInput
import Frugal.Props.Inst.F_facts_descriptorsReadOnly
import Frugal.Props.Inst.F_facts_encodeWritesOnlyOutput
import Frugal.Props.Inst.F_facts_envParsing
import Frugal.Props.Inst.F_facts_legacyInert
import Frugal.Props.Inst.F_facts_lockDiscipline
import Frugal.Props.Inst.F_facts_pointeeAfterLengthCheck
import Frugal.Props.Inst.F_facts_recursionDiscipline
import Frugal.Props.Inst.F_facts_rollback
import Frugal.Props.Inst.F_facts_steadyStateAllocFree
import Frugal.Props.Inst.F_facts_typeNodeCacheKeyed
import Frugal.Props.Inst.F_facts_typedAllocation
import Frugal.Props.Inst.F_facts_unknownIndexProtocol
import Frugal.Props.Inst.F_skeleton_decoder
import Frugal.Props.Inst.F_skeleton_descTable
import Frugal.Props.Inst.F_skeleton_encoder
import Frugal.Props.Inst.F_skeleton_residualDefs
import Frugal.Props.Inst.F_skeleton_residualReflect
import Frugal.Props.Inst.F_skeleton_resolver
import Frugal.Props.Inst.F_skeleton_sharedWrites
import Frugal.Props.Inst.F_valid_binaryGuard
import Frugal.Props.Inst.F_valid_binaryPtr
import Frugal.Props.Inst.F_valid_bitset
import Frugal.Props.Inst.F_valid_container
import Frugal.Props.Inst.F_valid_depth
import Frugal.Props.Inst.F_valid_headers
import Frugal.Props.Inst.F_valid_list
import Frugal.Props.Inst.F_valid_map
import Frugal.Props.Inst.F_valid_minWire
import Frugal.Props.Inst.F_valid_minWireFixed
import Frugal.Props.Inst.F_valid_simple
import Frugal.Props.Inst.F_valid_sizes
import Frugal.Props.Inst.F_valid_skip
import Frugal.Props.Inst.F_valid_span
import Frugal.Props.Inst.Params
/- the properties -/
import Frugal.Props.C01
import Frugal.Props.C02
import Frugal.Props.C03
import Frugal.Props.C04
import Frugal.Props.C05
import Frugal.Props.C06
import Frugal.Props.C07
import Frugal.Props.C08
import Frugal.Props.C09
import Frugal.Props.C10
import Frugal.Props.C11
import Frugal.Props.C12
import Frugal.Props.C13
import Frugal.Props.C14
import Frugal.Props.C15
import Frugal.Props.C16
import Frugal.Props.C17
import Frugal.Props.C18
import Frugal.Props.Instances
