/-
  Driver.lean — line-protocol executable of the model.
  usage: driver <universe.txt> < transcript
  The transcript is written by the Go harness: one operation per line together with what the
  real implementation returned (`... -> <go result>`).  For every line the driver computes the
  model's result, canonicalises both sides and prints `DIFF ...` when they differ.
-/
import Frugal.Proto
import Frugal.Generated
import Frugal.Alloc
import Frugal.Bitset
import Frugal.DescMap
import Frugal.Norm
import Frugal.BuildCache
import Frugal.Reference
import Frugal.Proofs.NormFacts
import Frugal.Proofs.NocopyRoundTrip
import Frugal.Proofs.Holders
import Frugal.Proofs.ReadNormH
open Frugal Frugal.Proto

structure Ctx where
  U : Universe
  R : List (Option SDesc)
  S : Schema
  P : Params
  boom : List Nat := []   -- structs whose InitDefault panics while the harness says so (`init` = 2)

def splitWs (s : String) : List String :=
  (s.splitOn " ").filter (· ≠ "")

/-- universe lines:
    struct <sid> <name|-> <init>
    field <sid> <goName> <exp> <emb> <goTy> <taghex|-> <dflt|->       -/
def parseUniverse (lines : Array String) : Universe := Id.run do
  let mut structs : Array GoStruct := #[]
  for ln in lines do
    match splitWs ln with
    | ["struct", _sid, name, init] =>
      structs := structs.push { name := if name == "-" then "" else name, fields := [], hasInit := init != "0" }
    | ["field", sid, gname, exp, emb, gty, tagh, dflt] =>
      let i := sid.toNat!
      match parseGoTy gty.toList with
      | some (t, []) =>
        let tagBytes := unhex tagh
        let tag := String.ofList (tagBytes.map fun b => Char.ofNat b.toNat)
        let f : GoField := { name := gname, exported := exp == "1", anonymous := emb == "1", ty := t,
                             tag := tag, dflt := if dflt == "-" then none else parseValStr dflt }
        if h : i < structs.size then
          let gs := structs[i]
          structs := structs.set i { gs with fields := gs.fields ++ [f] }
      | _ => pure ()
    | _ => pure ()
  return structs.toList

/-- the structs marked `struct <sid> <name> 2`: their InitDefault fails on demand (`useboom`) -/
def parseBoom (lines : Array String) : List Nat := Id.run do
  let mut out : List Nat := []
  for ln in lines do
    match splitWs ln with
    | ["struct", sid, _, "2"] => out := sid.toNat! :: out
    | _ => pure ()
  return out

def errClass : ErrKind → String
  | .required n => "required:" ++ n
  | .depth => "depth"
  | _ => "err"

def outcomeStr : Outcome (Val × Nat) → String
  | .ok (v, n) => "ok " ++ toString n ++ " " ++ showVal v
  | .err k => errClass k
  | .panic .bounds => "panic:bounds"
  | .panic .nilDeref => "panic:nilderef"
  | .panic .other => "panic:other"

/-- re-canonicalise a Go-side result string `ok <n> <val>` -/
def canonGoDec (toks : List String) : String :=
  match toks with
  | ["ok", n, v] =>
    match parseValStr v with
    | some vv => "ok " ++ n ++ " " ++ showVal vv
    | none => "unparsable:" ++ v
  | other => " ".intercalate other

/-- struct ids reachable from `sid` through field types -/
def reachFrom (S : Schema) : Nat → List Nat → List Nat → List Nat
  | 0, _, seen => seen
  | _, [], seen => seen
  | fuel + 1, sid :: todo, seen =>
    if seen.contains sid then reachFrom S fuel todo seen
    else reachFrom S fuel ((S.get sid).fields.flatMap (·.ty.structRefs) ++ todo) (sid :: seen)

def reachOf (S : Schema) (sid : Nat) : List Nat :=
  reachFrom S (S.length * S.length + S.length + 1) [sid] []

/-- the schema restricted to the types a value of struct `sid` can contain -/
def subSchema (S : Schema) (r : List Nat) : Schema :=
  (List.range S.length).map fun j => if r.contains j then S.get j else { fields := [] }

/-- `S'.ok && S'.rtSideB` for `S' = subSchema S r`, evaluated on the reachable structs only (the
    other descriptors of `S'` are empty and satisfy every condition trivially) -/
def sideOn (S' : Schema) (r : List Nat) : Option String :=
  if !(r.all fun j => (S'.get j).ok) then some "schema-not-ok"
  else if !(r.all fun j =>
      distinctIdsB (S'.get j).fields &&
      ((S'.get j).fields.all fun f => !f.assigned || match f.dflt with
        | some d => hasTy S' f.ty d
        | none => true) &&
      hasTy S' (.strct j) (zeroVal S' S'.length (.strct j))) then some "schema-side-condition"
  else none

/- C01's "enum values within 32 bits": an enum is written as its low 32 bits and read back sign-extended;
   beyond that two distinct map keys can become one, and which entry survives is Go's map order -/
mutual
def enums32 (S : Schema) : Ty → Val → Bool
  | .base .enum, .sc n => n < 2147483648 || n ≥ 18446744071562067968
  | .ptr e, .ptr v => enums32 S e v
  | .list _ e, .lst _ xs => enums32List S e xs
  | .map k v, .mp _ es => enums32Entries S k v es
  | .strct sid, .st fs _ => enums32Fields S (S.get sid).fields fs
  | _, _ => true
def enums32List (S : Schema) (e : Ty) : List Val → Bool
  | [] => true
  | x :: r => enums32 S e x && enums32List S e r
def enums32Entries (S : Schema) (k v : Ty) : List (Val × Val) → Bool
  | [] => true
  | (a, b) :: r => enums32 S k a && enums32 S v b && enums32Entries S k v r
def enums32Fields (S : Schema) : List Field → List Val → Bool
  | f :: fr, x :: xr => enums32 S f.ty x && enums32Fields S fr xr
  | _, _ => true
end

/-- hypotheses of `Frugal.C01.roundtrip_with_top_holder` on the holder: it is the serialisation of
    well-formed fields none of which the struct recognises, skippable within 64 levels -/
def topHolderOK (S : Schema) (i : Nat) (h : Bytes) : Bool :=
  let us := holderFields h
  serFields us == h && wfFields us &&
    us.all fun p => (lookupKnown (S.get i) p.1 p.2.tag).isNone && decide (skipNeed p.2 ≤ 64)

/-- C01 (`Frugal.C01.roundtrip` / `roundtrip_with_nested_holders`): the first of its hypotheses this (schema, value, destination)
    does not meet, if any -/
def rtWhy (P : Params) (S : Schema) (r : List Nat) (i : Nat) (vv dv : Val) : Option String :=
  match vv with
  | .st xs h =>
    match sideOn S r with
    | some w => some w
    | none =>
    if !hasTy S (.strct i) vv then some "value-not-typed"
    else if !hasTy S (.strct i) dv then some "dest-not-typed"
    else if !fitH vv then some "size-or-holder-not-a-field-list"
    else if !unkOK P S (.strct i) vv then some "holder-not-unrecognised-fields"
    else if !enums32 S (.strct i) vv then some "enum-beyond-32-bits"
    else if !rtOK S (.strct i) vv then some "nil-struct-with-required-fields"
    else if !decide (depth (toWireH S (.strct i) vv) ≤ 511) then some "depth"
    else none
  | _ => some "not-a-struct"

def handle (ctx : Ctx) (ln : String) : Option String :=
  match ln.splitOn " -> " with
  | [lhs, rhs] =>
    let go := splitWs rhs
    match splitWs lhs with
    | ["resolve", sid] =>
      let i := sid.toNat!
      let acc := (useType ctx.R i {}).1   -- = accepted ctx.U i (ctx.R = resolveAll ctx.U, computed once)
      let own := match ctx.R.getD i none with
        | some sd =>
          -- a struct without schema fields prints an empty field list: no trailing blank
          let fsStr := fieldsString ctx.U sd
          if fsStr.isEmpty then "1" else "1 " ++ fsStr
        | none => "0"
      let exp := (if acc then "acc=1" else "acc=0") ++ " own=" ++ own
      let got := " ".intercalate go
      if exp == got then none else some s!"DIFF resolve sid={sid} model=[{exp}] go=[{got}]"
    | ["size", sid, v] =>
      match parseValStr v with
      | none => some s!"BADLINE {ln}"
      | some vv =>
        let n := sizeM ctx.P ctx.S sid.toNat! vv
        let exp := toString n
        if go == [exp] then none else some s!"DIFF size sid={sid} model={exp} go={rhs} val={v}"
    | "enc" :: sid :: v :: _ =>
      match parseValStr v with
      | none => some s!"BADLINE {ln}"
      | some vv =>
        let mb := appendM ctx.P ctx.S sid.toNat! (erase vv)
        let rb := refEncStruct ctx.S sid.toNat! (erase vv)
        match go with
        | [h] =>
          let gb := unhex h
          if mb.length ≠ rb.length then some s!"MODEL-INCONSISTENT enc sid={sid} val={v}"
          else if gb == mb then none
          else match canonBytes gb, canonBytes mb with
            | some a, some b =>
              if a == b && gb.length == mb.length then none
              else some s!"DIFF enc sid={sid} model={hexOf mb} go={h} val={v}"
            | _, _ => some s!"DIFF enc(unparsable) sid={sid} model={hexOf mb} go={h} val={v}"
        | _ => some s!"DIFF enc sid={sid} model={hexOf mb} go={rhs} val={v}"
    | ["dec", sid, inp, dest] =>
      match parseValStr dest with
      | none => some s!"BADLINE {ln}"
      | some dv =>
        let res := decodeM ctx.P ctx.S sid.toNat! (unhex inp) dv
        let exp := outcomeStr res
        let got := canonGoDec go
        if exp == got then none else some s!"DIFF dec sid={sid} in={inp} dest={dest} model=[{exp}] go=[{got}]"
    | ["rt", sid, v, dest] =>
      match parseValStr v, parseValStr dest with
      | some vv, some dv =>
        let i := sid.toNat!
        let r := reachOf ctx.S i
        let S' := subSchema ctx.S r
        match rtWhy ctx.P S' r i vv dv with
        | some why => some ("SKIP rt:" ++ why)
        | none =>
          -- retained bytes come back byte for byte at every nesting level (roundtrip_with_nested_holders)
          let nf := normTopH S' i vv dv
          let exp := "ok " ++ toString (appendM ctx.P S' i vv).length ++ " " ++ showVal nf
          -- `nocopy` strings come back as views of the input: their provenance is forgotten here
          -- (C01.roundtrip_with_nocopy); where the bytes live is checked on the `dec` line (C14)
          let got := match go with
            | ["ok", n, v] => match parseValStr v with
              | some gv => "ok " ++ n ++ " " ++ showVal (erase gv)
              | none => "unparsable:" ++ v
            | other => " ".intercalate other
          if exp == got then none
          else some s!"DIFF rt sid={sid} val={v} dest={dest} normal-form=[{exp}] go=[{got}]"
      | _, _ => some s!"BADLINE {ln}"
    | ["span", ops] =>
      -- ops: n:align,n:align,...   go: blk:off,...  (block index, offset inside block) ; base addresses mod 8 given first
      -- ops: <initBaseMod8>;n:align:baseMod8,...      go: blk:off ...
      let (ib, body) := match ops.splitOn ";" with
        | [a, b] => (a.toNat!, b)
        | _ => (0, ops)
      let reqs := (body.splitOn ",").filterMap fun s =>
        match s.splitOn ":" with
        | [a, b, c] => some (a.toNat!, b.toNat!, c.toNat!)
        | _ => none
      let exp := Frugal.spanRunStr ctx.P reqs ib
      let got := " ".intercalate go
      if exp == got then none else some s!"DIFF span ops={ops} model=[{exp}] go=[{got}]"
    | ["descmap", ops] =>
      let exp := Frugal.descmapRunStr ops
      let got := " ".intercalate go
      if exp == got then none else some s!"DIFF descmap ops={ops} model=[{exp}] go=[{got}]"
    | ["route", nt] =>
      match nt.splitOn ":" with
      | [n, t] =>
        let exp := if Frugal.routeDirect ctx.P n.toNat! (t == "1") then "1" else "0"
        if go == [exp] then none else some s!"DIFF route {nt} model={exp} go={rhs}"
      | _ => none
    | ["arg", kind] =>
      -- entry-point argument checks: (EncodedSize, EncodeObject, DecodeObject) on a non-struct argument
      let exp := Frugal.argOutcome kind
      let got := " ".intercalate go
      if exp == got then none else some s!"DIFF arg kind={kind} model=[{exp}] go=[{got}]"
    | ["alloc", sid] =>
      if go == ["0", "0"] then none else some s!"DIFF alloc sid={sid} model=[0 0] go=[{rhs}]"
    | ["bitset", ops] =>
      let exp := Frugal.bitsetRunStr ctx.P ops
      let got := " ".intercalate go
      if exp == got then none else some s!"DIFF bitset ops={ops} model=[{exp}] go=[{got}]"
    | _ => none
  | _ => none

def bump (k : String) : List (String × Nat) → List (String × Nat)
  | [] => [(k, 1)]
  | (a, n) :: r => if a == k then (a, n + 1) :: r else (a, n) :: bump k r

/-- `use <sid> -> ok|err pf=<n>`: one step of the build-cache state machine -/
def handleUse (ctx : Ctx) (cache : CacheSt) (ln : String) : Option (CacheSt × Option String) :=
  match ln.splitOn " -> " with
  | [lhs, rhs] =>
    match splitWs lhs with
    | ["use", sid] =>
      let (ok, cache') := useType ctx.R sid.toNat! cache
      let exp := (if ok then "ok" else "err") ++ " pf=" ++ toString cache'.pf.length
      let got := " ".intercalate (splitWs rhs)
      some (cache', if exp == got then none else some s!"DIFF use sid={sid} model=[{exp}] go=[{got}]")
    | ["useboom", sid] =>
      -- the same use while the marked InitDefault methods panic: a failed use of the state machine
      let (ok, cache') := useType (failing ctx.R ctx.boom) sid.toNat! cache
      let exp := (if ok then "ok" else "panic:user") ++ " pf=" ++ toString cache'.pf.length
      let got := " ".intercalate (splitWs rhs)
      some (cache', if exp == got then none else some s!"DIFF useboom sid={sid} model=[{exp}] go=[{got}]")
    | _ => none
  | _ => none

partial def loop (ctx : Ctx) (h : IO.FS.Stream) (lineNo diffs : Nat) (skips : List (String × Nat))
    (cache : CacheSt) : IO (Nat × Nat × List (String × Nat)) := do
  let ln ← h.getLine
  if ln.isEmpty then return (lineNo, diffs, skips)
  let ln := String.ofList (ln.toList.reverse.dropWhile (fun c => c == '\n' || c == '\r')).reverse
  match handleUse ctx cache ln with
  | some (cache', none) => loop ctx h (lineNo + 1) diffs skips cache'
  | some (cache', some msg) =>
    IO.println s!"{msg} @line={lineNo + 1}"
    loop ctx h (lineNo + 1) (diffs + 1) skips cache'
  | none =>
  match handle ctx ln with
  | none => loop ctx h (lineNo + 1) diffs skips cache
  | some msg =>
    if msg.startsWith "SKIP" then loop ctx h (lineNo + 1) diffs (bump msg skips) cache
    else
      IO.println s!"{msg} @line={lineNo + 1}"
      loop ctx h (lineNo + 1) (diffs + 1) skips cache

def run (ufile : String) (P : Params) (label : String) : IO UInt32 := do
  let lines ← IO.FS.lines ufile
  let U := parseUniverse lines
  let ctx : Ctx := { U := U, R := resolveAll U, S := schemaOf U, P := P, boom := parseBoom lines }
  let stdin ← IO.getStdin
  let (n, d, sk) ← loop ctx stdin 0 0 [] {}
  let sks := " ".intercalate (sk.map fun (k, c) => s!"[{k}]={c}")
  IO.println s!"SUMMARY lines={n} diffs={d} structs={U.length} params={label} outside_theorem_hypotheses: {sks}"
  return (if d == 0 then 0 else 1)

def main (args : List String) : IO UInt32 := do
  match args with
  | [ufile] => run ufile Frugal.Generated.params "regenerated"
  -- search mode: the implementation against the model under the committed tables of the unchanged
  -- tree (used when a regenerated table has stopped satisfying `Params.valid`)
  | ["--ref", ufile] => run ufile Frugal.Reference.params "reference"
  | _ =>
    IO.eprintln "usage: driver [--ref] <universe.txt> < transcript"
    return 2
