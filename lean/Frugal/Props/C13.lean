/- Property C13: the property theorems (and nothing else). -/
import Frugal.Proofs.TagsSpec
import Frugal.Proofs.TagsSpell
import Frugal.Proofs.BuildCacheLemmas
import Frugal.Props.Inst.F_skeleton_resolver
import Frugal.Props.Inst.F_skeleton_residualDefs
namespace Frugal.C13
open Frugal

/-- nested pointers are refused at every position -/
theorem ptr_to_ptr_rejected (e : GoTy) (hasDef : Bool) (d : List Char) (allow : Bool) :
    doParseType (.ptr (.ptr e)) hasDef d allow = none := by
  cases allow <;> rfl

/-- a pointer is accepted only where allowed, and only to a scalar/string/binary or a struct -/
theorem ptr_only_to_value_or_struct (e : GoTy) (hasDef : Bool) (d : List Char) (allow : Bool)
    (t : Ty) (r : List Char) (h : doParseType (.ptr e) hasDef d allow = some (t, r)) :
    allow = true ∧ ∃ t', t = .ptr t' ∧ doParseType e hasDef d false = some (t', r) ∧
      ((∃ k, t' = .base k) ∨ (∃ s, t' = .strct s)) :=
  doParseType_ptr_some (fun t' r' h' => (parseType_ok e hasDef d false t' r' h').2 rfl) h

/-- Go kinds Thrift cannot express are refused (and these are all of them) -/
theorem unsupported_kind_rejected (k : GoKind) (nm : String) (hasDef : Bool) (d : List Char)
    (allow : Bool) (hk : k ∈ [GoKind.uint, .uint8, .uint16, .uint32, .uint64, .uintptr, .float32,
      .complex64, .complex128, .chan, .func, .iface, .unsafeptr]) :
    doParseType (.prim k nm) hasDef d allow = none := by
  simp [doParseType, (unsupported_kinds k).2 hk]

theorem array_rejected (n : Nat) (e : GoTy) (hasDef : Bool) (d : List Char) (allow : Bool) :
    doParseType (.arr n e) hasDef d allow = none := rfl

/-- a slice without a list/set annotation -/
theorem slice_without_annotation_rejected (e : GoTy) (d : List Char) (allow : Bool)
    (he : e ≠ .prim .uint8 "uint8") : doParseType (.slice e) false d allow = none := by
  have hb : (e == GoTy.prim .uint8 "uint8") = false := by simpa using he
  simp [doParseType, hb]

/-- pointers to containers are refused -/
theorem ptr_to_container_rejected (e : GoTy) (hasDef : Bool) (d : List Char) (allow : Bool)
    (he : (∃ x, e = .slice x ∧ x ≠ .prim .uint8 "uint8") ∨ (∃ k v, e = .map k v)) :
    doParseType (.ptr e) hasDef d allow = none :=
  ptr_to_container_none e hasDef d allow he

/-- map keys are scalars, strings or struct pointers; map values and list elements are values
    or struct pointers — anything else is refused -/
theorem map_key_value_types (k v : GoTy) (hasDef : Bool) (d : List Char) (allow : Bool) (t : Ty)
    (r : List Char) (h : doParseType (.map k v) hasDef d allow = some (t, r)) :
    ∃ kt vt, t = .map kt vt ∧
      ((∃ b, kt = .base b ∧ b ≠ .binary) ∨ (∃ s, kt = .ptr (.strct s))) ∧
      (vt.isPtr = false ∨ ∃ s, vt = .ptr (.strct s)) := by
  obtain ⟨kt, vt, rfl, hk, hv, _⟩ := doParseType_map_some k v hasDef d allow t r h
  exact ⟨kt, vt, rfl, (key_types kt).1 hk, (value_types vt).1 hv⟩

/-- non-numeric, empty or out-of-range ids -/
theorem bad_id_rejected (hasInit : Bool) (gf : GoField) (idS : List Char) (r : List (List Char))
    (h : idS = [] ∨ idS.all Char.isDigit = false ∨
      65536 ≤ idS.foldl (fun a c => a * 10 + (c.toNat - 48)) 0) :
    resolveField hasInit gf (idS :: r) = none :=
  resolveField_none (.inl (parseU16_eq_none.2 h))

/-- unknown requiredness word -/
theorem bad_requiredness_rejected (hasInit : Bool) (gf : GoField) (idS reqS : List Char)
    (r : List (List Char))
    (h : reqS ≠ "default".toList ∧ reqS ≠ "required".toList ∧ reqS ≠ "optional".toList) :
    resolveField hasInit gf (idS :: reqS :: r) = none :=
  resolveField_none (.inr (.inl (parseReq_eq_none.2 h)))

/-- an annotation the Go type does not admit (contradicting or syntactically broken) -/
theorem bad_annotation_rejected (hasInit : Bool) (gf : GoField) (idS reqS tyS : List Char)
    (r : List (List Char)) (h : parseType gf.ty tyS = none) :
    resolveField hasInit gf (idS :: reqS :: tyS :: r) = none :=
  resolveField_none (.inr (.inr (.inl h)))

/-- … in particular text after a complete type (D19) and a keyword that is only *part* of the kind's
    keyword (D18): an accepted annotation is consumed to its end, and a scalar is named by its whole
    keyword, by nothing, or by the Go type's own name -/
theorem annotation_consumed_to_the_end (vt : GoTy) (d : List Char) (t : Ty) (h : parseType vt d = some t) :
    ∃ r sp, doParseType vt (!d.isEmpty) d true = some (t, r) ∧ readToken r true = some ([], sp) :=
  parseType_some h

theorem keyword_is_a_whole_word (tag : DTag) (tv : List Char) :
    isKeyword tag tv = (keywordsOf tag).contains tv := rfl

/-- an annotation that contradicts the Go type, for a field of *anonymous* struct type as well (D25): such a
    struct answers to any name, but not to the keyword of another type — `i64`, `string`, `double`, `bool`,
    `list`, … are mistyped annotations for it, as they are for a named struct -/
theorem anonymous_struct_rejects_other_types (sid : Nat) (kw rest : List Char) (hk : identLike kw)
    (hrest : stopsIdent rest) (hkw : isTypeKeyword kw = true) (hs : isKeyword .strct kw = false)
    (hend : ∃ tok sp, readToken rest true = some (tok, sp) ∧ (tok = [] ∨ tok = [':'] ∨ tok = ['>'])) :
    matchAnnot (.strct "" sid) .strct (kw ++ rest) = none := by
  rw [matchAnnot_name _ _ kw rest hk hrest hs, doMatchStruct_end _ _ _ hend]
  obtain ⟨c, r, rfl, _⟩ := hk
  simp [hkw, GoTy.name]

example : parseType (.strct "" 0) "i64".toList = none ∧ parseType (.strct "" 0) "string".toList = none ∧
    parseType (.slice (.strct "" 0)) "list<string>".toList = none ∧
    parseType (.map (.prim .string "string") (.strct "" 0)) "map<string:bool>".toList = none ∧
    parseType (.strct "" 0) "Item".toList = some (.strct 0) ∧
    parseType (.strct "" 0) "struct".toList = some (.strct 0) := by decide

example : isKeyword .i64 "i6".toList = false ∧ isKeyword .i64 "6".toList = false ∧
    isKeyword .strct "t".toList = false ∧ isKeyword .strct "str".toList = false ∧
    isKeyword .i8 "byte".toList = true ∧ isKeyword .i8 "i8".toList = true ∧
    isKeyword .i8 "i8 byte".toList = false := by decide

/-- unknown options; `nocopy` on a non-string; `nocopy` twice -/
theorem bad_option_rejected (hasInit : Bool) (gf : GoField) (idS reqS tyS o : List Char)
    (r : List (List Char)) (h : o ≠ "nocopy".toList) :
    resolveField hasInit gf (idS :: reqS :: tyS :: o :: r) = none :=
  resolveField_none (.inr (.inr (.inr fun ty => parseOpts_unknown ty o r false h)))

theorem nocopy_twice_rejected (hasInit : Bool) (gf : GoField) (idS reqS tyS : List Char)
    (r : List (List Char)) :
    resolveField hasInit gf (idS :: reqS :: tyS :: "nocopy".toList :: "nocopy".toList :: r) = none :=
  resolveField_none (.inr (.inr (.inr fun ty => parseOpts_nocopy_twice ty r)))

theorem nocopy_only_on_strings (hasInit : Bool) (gf : GoField) (ft : List (List Char)) (f : Field)
    (h : resolveField hasInit gf ft = some f) (hn : f.nocopy = true) : f.ty.tt = .string :=
  (resolveField_rules h).2.resolve_left (ne_false_of_eq_true hn)

/-- only optional fields or structs can be pointers -/
theorem non_optional_scalar_ptr_rejected (hasInit : Bool) (gf : GoField) (ft : List (List Char))
    (f : Field) (h : resolveField hasInit gf ft = some f) (hp : f.ty.isPtr = true) :
    f.req = .optional ∨ f.ty.isStructPtr = true :=
  ((resolveField_rules h).1.resolve_left (ne_false_of_eq_true hp)).symm

/-- a tagged field that does not resolve rejects its struct -/
theorem one_bad_field_rejects_struct (gs : GoStruct) (pre post : List GoField) (gf : GoField)
    (ft : List (List Char)) (hfields : gs.fields = pre ++ gf :: post)
    (hpre : ∀ g ∈ pre, g.anonymous = true ∨ g.exported = false ∨ lookupStructTag g.tag = none)
    (h0 : gf.anonymous = false) (h1 : gf.exported = true)
    (ht : lookupStructTag gf.tag = some ft) (hf : resolveField gs.hasInit gf ft = none) :
    resolveStruct gs = none := by
  unfold resolveStruct
  rw [hfields, bad_field_rejects _ pre post gf [] ft hpre h0 h1 ht hf]

/-- duplicate ids reject the struct: an accepted struct has pairwise distinct ids -/
theorem duplicate_ids_rejected (gs : GoStruct) (sd : SDesc) (h : resolveStruct gs = some sd) :
    sd.fields.Pairwise (fun a b => a.id < b.id) := (resolveStruct_fields gs sd h).1

/-- a type is accepted exactly when every struct reachable from it (through fields, elements,
    keys, values, pointers; itself included) resolves -/
theorem accepted_iff_all_reachable_resolve (U : Universe) (sid : Nat) :
    accepted U sid = true ↔ BGood (resolveAll U) (sid, false) :=
  useType_ok_iff (resolveAll U) sid {} (cinv_empty _)

/-- a type whose own definition is rejected is not accepted -/
theorem accepted_needs_own_definition (U : Universe) (sid : Nat) (h : accepted U sid = true) :
    ∃ sd, (resolveAll U).getD sid none = some sd :=
  good_resolves _ ((accepted_iff_all_reachable_resolve U sid).1 h)

/-- … nor is a type that nests a rejected one, at any depth -/
theorem nested_rejected_rejects (U : Universe) (sid : Nat) (k : BKey)
    (hreach : BReach (resolveAll U) (sid, false) k) (hbad : (resolveAll U).getD k.1 none = none) :
    accepted U sid = false := by
  cases h : accepted U sid with
  | false => rfl
  | true =>
    have := (accepted_iff_all_reachable_resolve U sid).1 h k hreach
    unfold bres at this
    rw [hbad] at this
    cases this

/-- the rejection is the same on every call: after any history of uses (successful or failed, of
    this type or others, first met on its own or nested) the outcome is that of a fresh process -/
theorem same_outcome_after_any_history (U : Universe) (hist : List Nat) (sid : Nat) :
    (useType (resolveAll U) sid (useAll (resolveAll U) hist {})).1 = accepted U sid :=
  use_history_independent (resolveAll U) hist sid

/-- a rejected use stores nothing: the descriptor caches are exactly as before the call -/
theorem rejected_use_stores_nothing (U : Universe) (sid : Nat) (st : CacheSt)
    (h : (useType (resolveAll U) sid st).1 = false) : (useType (resolveAll U) sid st).2 = st :=
  useType_fail_unchanged (resolveAll U) sid st h

/-- … and so does not affect other types: whatever is in the caches is accepted -/
theorem caches_hold_only_accepted (U : Universe) (hist : List Nat) :
    CInv (resolveAll U) (useAll (resolveAll U) hist {}) :=
  useAll_inv (resolveAll U) hist {} (cinv_empty _)

/-- arguments that are not a (pointer to a) struct: EncodedSize panics with an ordinary Go panic,
    EncodeObject and DecodeObject return errors -/
theorem bad_argument_outcome (kind : String)
    (h : kind ∈ ["nil", "int", "ptrint", "ptrptr", "slice", "map", "string", "func", "chan"]) :
    argOutcome kind = "panic:ordinary err err" := by
  simp only [List.mem_cons, List.not_mem_nil, or_false] at h
  rcases h with rfl | rfl | rfl | rfl | rfl | rfl | rfl | rfl | rfl <;> rfl

/-- the hand-written model of the resolver functions was written from, and validated against, code with exactly this
    control structure (guards, switches, loops, returns, call sequence): regenerated fingerprint =
    committed fingerprint of the unchanged tree -/
theorem model_written_from_this_code : Generated.facts.resolverSkeleton = Skeleton.resolver := Instances.skeleton_resolver
/-- the rest of `internal/defs` — every function and package-level declaration that the resolver fingerprint does not cover (the error constructors, `Type` and its methods, the keyword and option tables, `T_int`, the caching resolver) — is, as full text, that of the tree the model was written from (R4 rewrote two character predicates nothing was watching) -/
theorem rest_of_resolver_package_as_modelled : Generated.facts.residualDefsSkeleton = Skeleton.residualDefs := Instances.skeleton_residualDefs

end Frugal.C13
