/- the regenerated obligations are decided one per module under Inst/; `Instances.params_valid` is in Inst/Params.lean -/
import Frugal.Props.Inst.Params
