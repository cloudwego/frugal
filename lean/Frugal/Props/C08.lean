/- Property C08: the property theorems (and nothing else). -/
import Frugal.Proofs.DescMapLemmas
import Frugal.Props.Inst.F_facts_lockDiscipline
import Frugal.Props.Inst.F_facts_descriptorsReadOnly
import Frugal.Props.Inst.F_skeleton_sharedWrites
namespace Frugal.C08
open Frugal
/-- under every interleaving of any number of goroutines, a completed first-use call returns the
    descriptor a sequential execution returns -/
theorem concurrent_first_use_agrees (descOf key : Nat → Nat) (sched : List Nat) (t : Nat)
    (hd : (crun descOf (cinit key) sched).pc t = .done) :
    (crun descOf (cinit key) sched).ret t = some (descOf (key t)) := agreement descOf key sched t hd
theorem one_builder_at_a_time (descOf key : Nat → Nat) (sched : List Nat) (t u : Nat)
    (ht : inCrit ((crun descOf (cinit key) sched).pc t) = true)
    (hu : inCrit ((crun descOf (cinit key) sched).pc u) = true) : t = u := by
  have h := crun_inv (descOf := descOf) sched (cinit key) (cinit_inv descOf key)
  exact Option.some.inj (((h.crit t).mp ht).symm.trans ((h.crit u).mp hu))
/-- no deadlock: while a call is unfinished some goroutine can step -/
theorem no_deadlock (descOf key : Nat → Nat) (sched : List Nat) (t : Nat)
    (hn : (crun descOf (cinit key) sched).pc t ≠ .done) :
    ∃ u, (cstep descOf (crun descOf (cinit key) sched) u).isSome = true :=
  progress (crun_inv sched (cinit key) (cinit_inv descOf key)) t hn
/-- the code follows the protocol the model describes (regenerated structural facts) -/
theorem lock_discipline : Generated.facts.lockDiscipline = true := Instances.facts_lockDiscipline
/-- … and what the concurrent calls share after that — the published descriptors — is never written on
    the encode / size / decode paths (regenerated fact: no assignment to, increment of, or address taken
    of a field reached from a `*tType` / `*structDesc` / `*tField` in those functions), so calls on
    unshared values and buffers run on read-only shared state plus pooled scratch -/
theorem descriptors_read_only_on_hot_paths : Generated.facts.descriptorsReadOnly = true :=
  Instances.facts_descriptorsReadOnly
/-- every store into package-level state of `internal/reflect` and `internal/defs` (outside `init`) is one
    of those of the tree the model was written from — the descriptor build under its lock, the two table
    registrations that only `init` calls, the caller-less caching resolver under its own lock: no
    package-level variable is written on the encode, size or decode paths (P1 cached an error string in a
    shared table from inside `DecodeObject`: a data race that no result shows) -/
theorem shared_state_written_only_where_modelled :
    Generated.facts.sharedWriteSiteList = Skeleton.sharedWrites := Instances.skeleton_sharedWrites

end Frugal.C08
