/- Property C16: the property theorems (and nothing else). -/
import Frugal.Proofs.EncodeRefine
import Frugal.Proofs.BufferLemmas
import Frugal.Props.Inst.Params
import Frugal.Props.Inst.F_facts_bufferContract
import Frugal.Props.Inst.F_skeleton_encoder
import Frugal.Props.Inst.F_facts_encodeWritesOnlyOutput
import Frugal.Props.Inst.F_facts_decodeNeverWritesInput
namespace Frugal.C16
open Frugal
/-- encoding is a function of the value: the model has no other input (map order aside), so
    encoding the same unmodified value again gives the same bytes -/
theorem encode_deterministic (S : Schema) (hS : S.ok = true) (sid : Nat) (v : Val)
    (ht : hasTy S (.strct sid) v = true) :
    appendM Generated.params S sid v = refEncStruct S sid v :=
  appendAny_eq Instances.params_valid S hS v (.strct sid) rfl ht

/-- EncodeObject writes only buf[:n]: with a sufficient buffer the caller's array afterwards is the
    encoding followed by its previous contents from n on -/
theorem writes_only_first_n (back : Bytes) (len : Nat) (chunks : List Bytes) (hfit : chunks.flatten.length ≤ len) :
    (encodeObjectM back len chunks).2.2 = chunks.flatten ++ back.drop chunks.flatten.length := by
  rw [encodeObject_fits back len chunks hfit]

theorem never_beyond_len (back : Bytes) (len : Nat) (chunks : List Bytes) :
    (encodeObjectM back len chunks).2.2.drop len = back.drop len :=
  encodeObject_tail_untouched back len chunks

/-- "repeatable" at the level of the caller's array: encoding the same value again into the array the
    first call left behind reports the same n and leaves the array exactly as it was -/
theorem encode_again_leaves_array (back : Bytes) (len : Nat) (chunks : List Bytes)
    (hfit : chunks.flatten.length ≤ len) :
    encodeObjectM (encodeObjectM back len chunks).2.2 len chunks = encodeObjectM back len chunks := by
  rw [encodeObject_fits back len chunks hfit, encodeObject_fits _ len chunks hfit, List.drop_left]

/-- the result depends on the bytes produced, not on the pieces in which the encoder appends them
    (fast paths and generic paths cut the same message differently) -/
theorem chunking_immaterial (back : Bytes) (len : Nat) (c₁ c₂ : List Bytes)
    (hsame : c₁.flatten = c₂.flatten) (hfit : c₁.flatten.length ≤ len) :
    encodeObjectM back len c₁ = encodeObjectM back len c₂ := by
  rw [encodeObject_fits back len c₁ hfit, encodeObject_fits back len c₂ (hsame ▸ hfit), hsame]

example : encodeObjectM [9, 9, 9, 9, 9] 4 [[1], [2, 3]] = (3, true, [1, 2, 3, 9, 9])
    ∧ encodeObjectM [1, 2, 3, 9, 9] 4 [[1, 2], [3]] = (3, true, [1, 2, 3, 9, 9]) := by decide

theorem code_follows_buffer_model : Generated.facts.bufferContract = true := Instances.facts_bufferContract
/-- … and those that speak of `appendM` / `sizeM` about the hand-written model of `appendStruct` /
    `appendAny` / the size walk / the entry points (Encode.lean), written from exactly this control
    structure of the code (regenerated fingerprint; the fast-path tables are regenerated themselves) -/
theorem encoder_model_written_from_this_code : Generated.facts.encoderSkeleton = Skeleton.encoder :=
  Instances.skeleton_encoder

/-- "never modify the value they are given": in the model encoding is a function of the value, so the
    statement is about the code — regenerated fact: in the encode and size functions every store goes to
    a local variable or to the output buffer `b` (no assignment through a pointer, field or element of
    anything else, no `append` / `copy` into anything but `b`).  The reflect-based map iteration and the
    pooled copy of a by-value argument (hack.go, reflect.go) are outside this fact: snapshot oracle. -/
theorem encoder_writes_only_its_output : Generated.facts.encodeWritesOnlyOutput = true :=
  Instances.facts_encodeWritesOnlyOutput

/-- "decoding never modifies the input buffer": regenerated fact — no function of the decoder assigns
    to an element or sub-slice of its input, appends to it or copies into it (the harness compares the
    buffer before and after every decode as well) -/
theorem decoder_never_writes_its_input : Generated.facts.decodeNeverWritesInput = true :=
  Instances.facts_decodeNeverWritesInput

end Frugal.C16
