/- Property C12: the property theorems (and nothing else). -/
import Frugal.Proofs.TagsSpec
import Frugal.Proofs.TagsSpell
import Frugal.Props.Inst.F_skeleton_resolver
import Frugal.Props.Inst.F_skeleton_residualDefs
namespace Frugal.C12
open Frugal

/-- the frugal tag takes precedence over the thrift tag -/
theorem frugal_over_thrift (tag : String) (s : String) (h : tagLookup tag "frugal" = some s) :
    lookupStructTag tag = some ((splitComma [] s.toList).map trimSpace) := by
  simp [lookupStructTag, h]

/-- the thrift tag carries the same components after its leading field name -/
theorem thrift_minus_name (tag s : String) (h0 : tagLookup tag "frugal" = none)
    (h : tagLookup tag "thrift" = some s) :
    lookupStructTag tag = some (((splitComma [] s.toList).drop 1).map trimSpace) := by
  simp [lookupStructTag, h0, h]

/-- spelling: `thrift:"name,<x>"` ≡ `frugal:"<x>"` -/
theorem thrift_spelling_same (t1 t2 s1 s2 : String) (name : List Char)
    (h1 : tagLookup t1 "frugal" = some s1)
    (h2f : tagLookup t2 "frugal" = none) (h2 : tagLookup t2 "thrift" = some s2)
    (hs : s2.toList = name ++ ',' :: s1.toList) (hname : ∀ c ∈ name, c ≠ ',') :
    lookupStructTag t2 = lookupStructTag t1 := by
  simp [lookupStructTag, h1, h2f, h2, hs, splitComma_comma name _ hname]

/-- id, requiredness, type and options of a resolved field are those its tag spells -/
theorem field_from_tag (hasInit : Bool) (gf : GoField) (idS reqS tyS : List Char)
    (opts : List (List Char)) (f : Field)
    (h : resolveField hasInit gf (idS :: reqS :: tyS :: opts) = some f) :
    parseU16 idS = some f.id ∧ parseReq reqS = some f.req ∧ parseType gf.ty tyS = some f.ty ∧
    parseOpts f.ty opts false = some f.nocopy ∧ f.name = gf.name := by
  obtain ⟨_, _, _, _, _, _, hft, hid, hreq, hty, _, hopts, rfl⟩ := resolveField_some h
  cases hft
  exact ⟨hid, hreq, hty, hopts, rfl⟩

/-- requiredness is `default` when omitted -/
theorem requiredness_default_when_omitted (hasInit : Bool) (gf : GoField) (idS : List Char) :
    resolveField hasInit gf [idS] = resolveField hasInit gf [idS, "default".toList] :=
  rfl

/-- untagged, unexported and embedded fields are ignored -/
theorem ignored (hasInit : Bool) (gf : GoField) (r : List GoField) (ids : List Nat)
    (h : gf.anonymous = true ∨ gf.exported = false ∨ lookupStructTag gf.tag = none) :
    resolveFieldsAux hasInit (gf :: r) ids = resolveFieldsAux hasInit r ids :=
  ignored_fields hasInit gf r ids h

/-- the field table holds exactly the resolved fields, by strictly increasing id -/
theorem field_table (gs : GoStruct) (sd : SDesc) (h : resolveStruct gs = some sd) :
    sd.fields.Pairwise (fun a b => a.id < b.id) ∧
    ∃ fs, resolveFieldsAux gs.hasInit gs.fields [] = some fs ∧ ∀ f, f ∈ sd.fields ↔ f ∈ fs :=
  resolveStruct_fields gs sd h

/-- the annotation decides list versus set, and the element type is the element annotation's -/
theorem list_versus_set (e : GoTy) (d : List Char) (allow : Bool) (t : Ty) (r : List Char)
    (he : e ≠ .prim .uint8 "uint8") (h : doParseType (.slice e) true d allow = some (t, r)) :
    ∃ tok r0 r1 r2 et, readToken d false = some (tok, r0) ∧ expectTok r0 '<' = some r1 ∧
      doParseType e true r1 true = some (et, r2) ∧ expectTok r2 '>' = some r ∧ isValueType et = true ∧
      ((tok = "set".toList ∧ t = .list true et) ∨ (tok = "list".toList ∧ t = .list false et)) :=
  (doParseType_slice_some e true d allow t r he h).2

/-- the annotation decides enum versus i64: an enum exactly when it names the Go type and that type is
    a defined one (not the predeclared `int64` / `int`) -/
theorem enum_versus_i64 (k : GoKind) (nm : String) (d : List Char) (allow : Bool) (t : Ty) (r : List Char)
    (h : doParseType (.prim k nm) true d allow = some (t, r)) :
    t = .base .enum ↔
      (kindTag k = some .i64 ∧ isPredeclared64 (.prim k nm) = false ∧
       ∃ tv rest, readToken d false = some (tv, rest) ∧ isKeyword .i64 tv = false) :=
  enum_rule k nm d allow t r h

/-- the predeclared `int` named in its own annotation is an i64 like `int64` named `int64` (D24: it used
    to become a 32-bit enum), a defined integer type named in its annotation is an enum -/
example : doParseType (.prim .int "int") true "int".toList false = some (.base .i64, []) ∧
    doParseType (.prim .int64 "int64") true "int64".toList false = some (.base .i64, []) ∧
    doParseType (.prim .int "int") true "i64".toList false = some (.base .i64, []) ∧
    doParseType (.prim .int "Kind") true "Kind".toList false = some (.base .enum, []) ∧
    doParseType (.prim .int64 "Kind") true "Kind".toList false = some (.base .enum, []) := by decide

/-- spelling: spaces around tag components -/
theorem spaces_same (comps : List (List Char × List Char × List Char))
    (h : ∀ p ∈ comps, (∀ c ∈ p.1, isGoSpace c = true) ∧ (∀ c ∈ p.2.2, isGoSpace c = true) ∧
      (∀ c ∈ p.1 ++ p.2.1 ++ p.2.2, c ≠ ',')) :
    (splitComma [] ((comps.map fun p => p.1 ++ p.2.1 ++ p.2.2).foldr (fun x r => x ++ ',' :: r) [])).map trimSpace =
    (splitComma [] ((comps.map fun p => p.2.1).foldr (fun x r => x ++ ',' :: r) [])).map trimSpace := by
  induction comps with
  | nil => rfl
  | cons p r ih =>
    obtain ⟨ha, hb, hc⟩ := h p (by simp)
    simp only [List.map_cons, List.foldr_cons]
    rw [splitComma_comma _ _ hc, splitComma_comma _ _ (fun c hcm => hc c (by simp [hcm])), List.map_cons,
      List.map_cons, trimSpace_pad _ _ _ ha hb, ih (fun q hq => h q (List.mem_cons_of_mem _ hq))]

/-- spelling: omitted ≡ redundant scalar annotation (any keyword of the kind's wire type) -/
theorem scalar_annotation_same (k : GoKind) (nm : String) (allow : Bool) (tag : DTag)
    (hk : kindTag k = some tag) :
    (doParseType (.prim k nm) false [] allow).map (·.1) = some (baseOfTag tag) ∧
    ∀ kw ∈ ["bool", "i8", "byte", "double", "i16", "i32", "i64", "string"],
      isKeyword tag kw.toList = true →
      (doParseType (.prim k nm) true kw.toList allow).map (·.1) = some (baseOfTag tag) := by
  refine ⟨by simp [doParseType, hk], fun kw _ h => ?_⟩
  rw [prim_keyword k nm allow tag _ hk h]
  rfl

/-- spelling: byte ≡ i8 -/
theorem byte_same_as_i8 (nm : String) (allow : Bool) :
    doParseType (.prim .int8 nm) true "byte".toList allow =
      doParseType (.prim .int8 nm) true "i8".toList allow := by
  rw [prim_keyword .int8 nm allow .i8 _ rfl (by decide), prim_keyword .int8 nm allow .i8 _ rfl (by decide)]

-- `hnodot` is implied by `hend`; it is kept so that the statement reads as the property does
set_option linter.unusedVariables false in
/-- spelling: package-qualified struct name ≡ bare name — for every Go type the annotation is matched
    against, a field of *anonymous* struct type included (D23: the hypothesis `vt.name ≠ ""` that the
    proof had forced marked the point where the code was wrong: an anonymous struct answered before
    the qualifier was consumed, so `list<pkg.Item>` was rejected where `list<Item>` is accepted) -/
theorem qualified_struct_name_same (vt : GoTy) (pkg nm rest : List Char) (hp : identLike pkg)
    (hn : identLike nm) (hrest : stopsIdent rest) (hnodot : ∀ r, rest ≠ '.' :: r)
    (hkw1 : isKeyword .strct pkg = false) (hkw2 : isKeyword .strct nm = false)
    (hend : ∃ tok sp, readToken rest true = some (tok, sp) ∧ (tok = [] ∨ tok = [':'] ∨ tok = ['>'])) :
    matchAnnot vt .strct (pkg ++ '.' :: nm ++ rest) = matchAnnot vt .strct (nm ++ rest) :=
  qualified_name_same vt pkg nm rest hp hn hrest hkw1 hkw2 hend

/-- what the resolver accepts satisfies every well-formedness assumption of the codec theorems -/
theorem accepted_schema_ok (U : Universe) : (schemaOf U).ok = true := schemaOf_ok U

/- non-vacuity: the hypotheses of the spelling theorems are met by ordinary tags -/
example : identLike "base".toList ∧ identLike "Msg".toList ∧ stopsIdent ">".toList ∧
    isKeyword .strct "base".toList = false := by
  refine ⟨identLike_of_identB (by decide), identLike_of_identB (by decide), ?_, by decide⟩
  intro c r h
  cases h
  decide

example : matchAnnot (.strct "Msg" 0) .strct "base.Msg>".toList =
    matchAnnot (.strct "Msg" 0) .strct "Msg>".toList := by decide

/-- an anonymous struct: both spellings are accepted and leave the same rest -/
example : matchAnnot (.strct "" 0) .strct "base.Msg>".toList = some (">".toList, false) ∧
    matchAnnot (.strct "" 0) .strct "Msg>".toList = some (">".toList, false) := by decide

/-- the hand-written model of the resolver functions (`DoResolveFields`, `lookupStructTag`, `trimSpaces`, `doParseType`, `doParseSlice`, `doMatchStruct`, `readToken`, `newStructDesc`, `fromDefsField`) was written from, and validated against, code with exactly this
    control structure (guards, switches, loops, returns, call sequence): regenerated fingerprint =
    committed fingerprint of the unchanged tree -/
theorem model_written_from_this_code : Generated.facts.resolverSkeleton = Skeleton.resolver := Instances.skeleton_resolver
/-- the rest of `internal/defs` — every function and package-level declaration that the resolver fingerprint does not cover (the error constructors, `Type` and its methods, the keyword and option tables, `T_int`, the caching resolver) — is, as full text, that of the tree the model was written from (R4 rewrote two character predicates nothing was watching) -/
theorem rest_of_resolver_package_as_modelled : Generated.facts.residualDefsSkeleton = Skeleton.residualDefs := Instances.skeleton_residualDefs

end Frugal.C12
