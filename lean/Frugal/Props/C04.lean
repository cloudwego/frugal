/- Property C04: the property theorems (and nothing else). -/
import Frugal.Proofs.SizeExact
import Frugal.Proofs.BufferLemmas
import Frugal.Props.Inst.Params
import Frugal.Props.Inst.F_facts_bufferContract
import Frugal.Props.Inst.F_skeleton_encoder
import Frugal.Props.Inst.F_valid_headers
import Frugal.Props.Inst.F_valid_sizes
import Frugal.Props.Inst.F_skeleton_descTable
namespace Frugal.C04
open Frugal

theorem sizes_and_headers : Generated.params.validSizes = true ∧ Generated.params.validHeaders = true :=
  ⟨Instances.valid_sizes, Instances.valid_headers⟩

/-- EncodedSize (the separate walk with its precomputed fixed part and count × width shortcuts)
    returns exactly the number of bytes the encoder writes, for every accepted schema and every
    value.  The model takes a value, so "by struct or by pointer" is the same statement. -/
theorem size_exact (S : Schema) (hS : S.ok = true) (sid : Nat) (v : Val)
    (ht : hasTy S (.strct sid) v = true) :
    sizeM Generated.params S sid v = (appendM Generated.params S sid v).length :=
  sizeFunc_eq_append Instances.params_valid S hS (.strct sid) v rfl ht rfl

/-- the same for any nested struct / list / map value (e.g. a nil *T argument: one STOP byte) -/
theorem size_exact_nested (S : Schema) (hS : S.ok = true) (ty : Ty) (v : Val) (hok : ty.ok = true)
    (ht : hasTy S ty v = true) (hs : specSimple ty.tt = false) :
    sizeFunc Generated.params S ty v = (appendAny Generated.params S ty v).length :=
  sizeFunc_eq_append Instances.params_valid S hS ty v hok ht hs

/-- buffer long enough: success, n = the encoded length, bytes after n untouched -/
theorem buffer_fits (back : Bytes) (len : Nat) (chunks : List Bytes) (hfit : chunks.flatten.length ≤ len) :
    encodeObjectM back len chunks =
      (chunks.flatten.length, true, chunks.flatten ++ back.drop chunks.flatten.length) :=
  encodeObject_fits back len chunks hfit

/-- buffer too short: an error, n = 0 -/
theorem buffer_short (back : Bytes) (len : Nat) (chunks : List Bytes) (hs : len < chunks.flatten.length) :
    (encodeObjectM back len chunks).1 = 0 ∧ (encodeObjectM back len chunks).2.1 = false :=
  encodeObject_short back len chunks hs

/-- in both cases nothing behind len(buf) is written -/
theorem buffer_tail_untouched (back : Bytes) (len : Nat) (chunks : List Bytes) :
    (encodeObjectM back len chunks).2.2.drop len = back.drop len :=
  encodeObject_tail_untouched back len chunks

/-- the usual call, `buf := make([]byte, EncodedSize(v))`: success, n = len(buf), and the whole buffer is
    exactly the message -/
theorem exact_buffer_is_the_message (back : Bytes) (chunks : List Bytes)
    (hlen : back.length = chunks.flatten.length) :
    encodeObjectM back back.length chunks = (back.length, true, chunks.flatten) := by
  rw [encodeObject_fits back back.length chunks (Nat.le_of_eq hlen.symm), ← hlen, List.drop_length, List.append_nil]

/-- the two halves together: a buffer of `EncodedSize(v)` bytes, whatever it held and however the encoder
    cuts its output, comes back as n = EncodedSize(v) and exactly the encoding of v -/
theorem sized_buffer_receives_the_encoding (S : Schema) (hS : S.ok = true) (sid : Nat) (v : Val)
    (ht : hasTy S (.strct sid) v = true) (back : Bytes) (chunks : List Bytes)
    (hch : chunks.flatten = appendM Generated.params S sid v)
    (hlen : back.length = sizeM Generated.params S sid v) :
    encodeObjectM back back.length chunks =
      (sizeM Generated.params S sid v, true, appendM Generated.params S sid v) := by
  rw [size_exact S hS sid v ht, ← hch] at hlen
  rw [exact_buffer_is_the_message back chunks hlen, hlen, size_exact S hS sid v ht, hch]

/-- frugal.go really is `Append(buf[:0:len(buf)], v)` + `len(ret) > len(buf)` (regenerated fact) -/
theorem code_follows_buffer_model : Generated.facts.bufferContract = true := Instances.facts_bufferContract

example : let S : Schema := [{ fields := [{ id := 1, req := .optional, ty := .map (.base .string) (.ptr (.strct 0)) }] }]
    S.ok = true ∧ hasTy S (.strct 0) (.st [.mp false [(.str [65], .nilp)]] []) = true := by decide
/-- the hand-written model of the encoder and size functions was written from, and validated against, code with exactly this
    control structure (guards, switches, loops, returns, call sequence): regenerated fingerprint =
    committed fingerprint of the unchanged tree -/
theorem model_written_from_this_code : Generated.facts.encoderSkeleton = Skeleton.encoder := Instances.skeleton_encoder
/-- the schema the theorems quantify over reaches the codec through the descriptor tables (field index
    by id, required ids, offsets, per-field flags and fixed sizes, the type node's tag / size / alignment /
    element nodes): the declarations `structDesc`, `tField`, `tType` and the functions that fill them in
    (`fromDefsFields`, `fromDefsField`, `GetField`, `newTType`) are, as full text, those the model and the
    correspondence runs were validated against (regenerated fingerprint) -/
theorem descriptor_tables_built_as_modelled : Generated.facts.descTableSkeleton = Skeleton.descTable :=
  Instances.skeleton_descTable

end Frugal.C04
