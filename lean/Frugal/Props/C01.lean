/- Property C01: the property theorems (and nothing else). -/
import Frugal.Proofs.RoundTrip
import Frugal.Proofs.NormFacts
import Frugal.Proofs.TagsSpec
import Frugal.Proofs.NocopyRoundTrip
import Frugal.Proofs.BufferLemmas
import Frugal.Props.Inst.Params
import Frugal.Props.Inst.F_skeleton_decoder
import Frugal.Props.Inst.F_skeleton_encoder
import Frugal.Props.Inst.F_skeleton_descTable
import Frugal.Props.Inst.F_skeleton_residualReflect
namespace Frugal.C01
open Frugal

/-- (wire level) parsing the serialisation of a well-formed value gives the value back and
    consumes exactly its bytes, whatever follows. -/
theorem wire_roundtrip (v : TVal) (fuel : Nat) (r : Bytes) (hw : wf v = true) (hd : depth v < fuel) :
    parse fuel v.tag (ser v ++ r) = some (v, r) := parse_ser v fuel r hw hd

/-- the bytes frugal writes are the reference encoding (input half of the round trip) -/
theorem encode_is_reference (S : Schema) (hS : S.ok = true) (sid : Nat) (v : Val)
    (ht : hasTy S (.strct sid) v = true) :
    appendM Generated.params S sid v = refEncStruct S sid v :=
  appendAny_eq Instances.params_valid S hS v (.strct sid) rfl ht

/-- Encode then decode, stated through the reference reader (kept: it needs no side condition on
    the schema and holds for every destination, typed or not). -/
theorem roundtrip_partial (S : Schema) (hS : S.ok = true) (sid : Nat) (xs : List Val) (dest : Val)
    (ht : hasTy S (.strct sid) (.st xs []) = true) (hn : noHolderList xs = true)
    (hf : sizesFitList xs = true) :
    decodeM Generated.params S sid (appendM Generated.params S sid (.st xs [])) dest =
      (readMessage Generated.params S sid (messageOf S sid (.st xs [])) 0 dest).mapv
        (·, (appendM Generated.params S sid (.st xs [])).length) :=
  roundtrip_via_reader Instances.params_valid S hS sid xs dest ht hn hf

/-- **C01.** For every accepted schema and every value `v` of a struct type of it (typed; lengths
    within int32; nesting at most 511 levels; a written nil struct pointer only where the struct has
    no required field), encoding `v` with the model of frugal's encoder as written and decoding the
    bytes with the model of its decoder as written into any destination of the type succeeds,
    consumes exactly the encoded length, and yields `normTop v dest`: the destination with every
    written field replaced by the field's normal form (`Norm.lean`, spelled out by the theorems
    below) and every omitted field left as the destination had it. -/
theorem roundtrip (S : Schema) (hS : S.ok = true) (hside : S.rtSide) (sid : Nat) (xs ds : List Val)
    (h' : Bytes) (ht : hasTy S (.strct sid) (.st xs []) = true)
    (hdest : hasTy S (.strct sid) (.st ds h') = true)
    (hn : noHolderList xs = true) (hf : sizesFitList xs = true)
    (hr : rtOK S (.strct sid) (.st xs []) = true)
    (hd : depth (toWire S (.strct sid) (.st xs [])) ≤ 511) :
    decodeM Generated.params S sid (appendM Generated.params S sid (.st xs [])) (.st ds h') =
      .ok (normTop S sid (.st xs []) (.st ds h'),
           (appendM Generated.params S sid (.st xs [])).length) := by
  apply roundtrip_full Instances.params_valid S hS hside sid xs ds h' ht hdest hn hf hr
  have : Generated.params.maxDepth = 1023 := rfl
  omega

/-- `roundtrip` through the public entry points and the caller's memory: `EncodeObject` into any buffer
    that is long enough (whatever it held, however the encoder cuts its output) succeeds with `n`, and
    decoding `buf[:n]` gives `normTop v dest` and consumes `n`.  (The buffer model's tie to frugal.go is
    `C04.code_follows_buffer_model`.) -/
theorem roundtrip_through_caller_buffer (S : Schema) (hS : S.ok = true) (hside : S.rtSide) (sid : Nat)
    (xs ds : List Val) (h' : Bytes) (ht : hasTy S (.strct sid) (.st xs []) = true)
    (hdest : hasTy S (.strct sid) (.st ds h') = true)
    (hn : noHolderList xs = true) (hf : sizesFitList xs = true)
    (hr : rtOK S (.strct sid) (.st xs []) = true)
    (hd : depth (toWire S (.strct sid) (.st xs [])) ≤ 511)
    (back : Bytes) (chunks : List Bytes)
    (hch : chunks.flatten = appendM Generated.params S sid (.st xs []))
    (hfit : chunks.flatten.length ≤ back.length) :
    (encodeObjectM back back.length chunks).2.1 = true ∧
    decodeM Generated.params S sid
        ((encodeObjectM back back.length chunks).2.2.take (encodeObjectM back back.length chunks).1)
        (.st ds h') =
      .ok (normTop S sid (.st xs []) (.st ds h'), (encodeObjectM back back.length chunks).1) := by
  rw [encodeObject_fits back back.length chunks hfit,
    List.take_left' rfl,
    hch]
  exact ⟨rfl, roundtrip S hS hside sid xs ds h' ht hdest hn hf hr hd⟩

/-- **C01 with retained unknown fields** (hypothesis (iv) of `roundtrip` removed at the top level).
    A value `.st xs h` whose holder `h` is the serialisation of well-formed fields `us` that the schema
    does not recognise — what a decode leaves there (C11) — with skippable nesting (≤ 64): encode, then
    decode into any destination of the type succeeds, consumes exactly the encoded length, returns the
    recognised fields in normal form and the holder **byte for byte** (`h` again; for a type without
    the holder `h` is empty by typing and the destination's is kept).  The field values `xs` themselves
    are holder-free here (a nested holder is re-emitted and re-read by the same argument one level
    down: `C11.intermediary_loses_nothing`, not composed into a round-trip statement). -/
theorem roundtrip_with_top_holder (S : Schema) (hS : S.ok = true) (hside : S.rtSide) (sid : Nat)
    (xs ds : List Val) (h h' : Bytes) (us : List (Nat × TVal))
    (hser : serFields us = h) (hwu : wfFields us = true)
    (hunk : ∀ p ∈ us, lookupKnown (S.get sid) p.1 p.2.tag = none ∧ skipNeed p.2 ≤ 64)
    (ht : hasTy S (.strct sid) (.st xs h) = true) (hdest : hasTy S (.strct sid) (.st ds h') = true)
    (hn : noHolderList xs = true) (hf : sizesFitList xs = true)
    (hr : rtOK S (.strct sid) (.st xs h) = true)
    (hd : depth (toWire S (.strct sid) (.st xs h)) ≤ 511) :
    decodeM Generated.params S sid (appendM Generated.params S sid (.st xs h)) (.st ds h') =
      .ok (.st (normFields S (S.get sid) (S.get sid).fields xs ds)
            (if (S.get sid).hasHolder && h.length > 0 then h else h'),
           (appendM Generated.params S sid (.st xs h)).length) := by
  apply roundtrip_top_holder Instances.params_valid S hS hside sid xs ds h h' us hser hwu hunk ht hdest hn hf hr
  have : Generated.params.maxDepth = 1023 := rfl
  omega

/-- **C01 with retained unknown fields at every nesting level.**  `v = .st xs h` may carry holder bytes
    in any struct it contains (inside pointers, list / set elements, map keys and values): each is the
    serialisation of well-formed fields (`fitH`) that the struct holding them does not recognise and
    the skipper can skip (`unkOK`: what a decode leaves there, C11).  Encode, then decode into any
    destination of the type: success, exactly the encoded length, and `normTopH v dest` — the normal
    form of `roundtrip` in which, in addition, every struct that carried retained bytes (and whose type
    declares the holder) has them back **byte for byte**, and one that carried none has what its
    destination had. -/
theorem roundtrip_with_nested_holders (S : Schema) (hS : S.ok = true) (hside : S.rtSide) (sid : Nat)
    (xs ds : List Val) (h h' : Bytes)
    (ht : hasTy S (.strct sid) (.st xs h) = true) (hdest : hasTy S (.strct sid) (.st ds h') = true)
    (hfit : fitH (.st xs h) = true) (hu : unkOK Generated.params S (.strct sid) (.st xs h) = true)
    (hr : rtOK S (.strct sid) (.st xs h) = true)
    (hd : depth (toWireH S (.strct sid) (.st xs h)) ≤ 511) :
    decodeM Generated.params S sid (appendM Generated.params S sid (.st xs h)) (.st ds h') =
      .ok (normTopH S sid (.st xs h) (.st ds h'),
           (appendM Generated.params S sid (.st xs h)).length) := by
  apply roundtrip_holders Instances.params_valid S hS hside sid xs ds h h' ht hdest hfit hu hr
  have : Generated.params.maxDepth = 1023 := rfl
  omega

/-- not vacuous: `Outer{1: *Inner, holder}`, `Inner{1: i32, holder}`, a value carrying an unknown string
    field 8 at the top and an unknown i32 field 9 in the nested struct meets every hypothesis, and its
    normal form over an empty destination is the value itself, both holders included -/
def exSH : Schema :=
  [ { fields := [{ id := 1, req := .optional, ty := .ptr (.strct 1) }], hasHolder := true },
    { fields := [{ id := 1, req := .dflt, ty := .base .i32 }], hasHolder := true } ]
def exVH : Val := .st [.ptr (.st [.sc 5] (serFields [(9, .i32 7)]))] (serFields [(8, .str [1, 2])])
example : exSH.ok = true ∧ hasTy exSH (.strct 0) exVH = true ∧ hasTy exSH (.strct 0) (.st [.nilp] []) = true ∧
    fitH exVH = true ∧ unkOK Generated.params exSH (.strct 0) exVH = true ∧ rtOK exSH (.strct 0) exVH = true ∧
    depth (toWireH exSH (.strct 0) exVH) ≤ 511 := by decide
example : normTopH exSH 0 exVH (.st [.nilp] []) = exVH := by rfl

/-- on values without holder bytes this is `roundtrip`'s normal form -/
theorem nested_holder_normal_form_extends (S : Schema) (t : Ty) (v d : Val) (hn : noHolder v = true) :
    normH S t v d = norm S t v d := normH_of_noHolder S v t d hn

/-- the same for the schema the resolver builds from any universe of Go declarations: what it
    accepts is well-formed and has distinct ids (proved), the remaining side conditions are Go's
    typing of the declared defaults and the finiteness of by-value nesting -/
theorem roundtrip_accepted (U : Universe) (sid : Nat) (xs ds : List Val) (h' : Bytes)
    (hnc : ∀ sid, ∀ f ∈ ((schemaOf U).get sid).fields, f.nocopy = false)
    (hdf : ∀ sid, ∀ f ∈ ((schemaOf U).get sid).fields, f.assigned = true → ∀ d, f.dflt = some d →
      hasTy (schemaOf U) f.ty d = true)
    (hz : ∀ sid, hasTy (schemaOf U) (.strct sid) (zeroVal (schemaOf U) (schemaOf U).length (.strct sid)) = true)
    (ht : hasTy (schemaOf U) (.strct sid) (.st xs []) = true)
    (hdest : hasTy (schemaOf U) (.strct sid) (.st ds h') = true)
    (hn : noHolderList xs = true) (hf : sizesFitList xs = true)
    (hr : rtOK (schemaOf U) (.strct sid) (.st xs []) = true)
    (hd : depth (toWire (schemaOf U) (.strct sid) (.st xs [])) ≤ 511) :
    decodeM Generated.params (schemaOf U) sid (appendM Generated.params (schemaOf U) sid (.st xs [])) (.st ds h') =
      .ok (normTop (schemaOf U) sid (.st xs []) (.st ds h'),
           (appendM Generated.params (schemaOf U) sid (.st xs [])).length) :=
  roundtrip (schemaOf U) (schemaOf_ok U) ⟨schemaOf_distinct U, hnc, hdf, hz⟩ sid xs ds h' ht hdest hn hf hr hd

/-- **C01 for schemas with `nocopy` fields as well** (every schema the resolver accepts, holders
    aside): the same statement, with the provenance of `nocopy` strings forgotten (`erase` turns a
    view of the input into the string it shows; where the bytes live is C14's `decoded_views_exact`).
    The normal form does not depend on the option. -/
theorem roundtrip_with_nocopy (S : Schema) (hS : S.ok = true) (hside : S.rtSideNC) (sid : Nat)
    (xs ds : List Val) (h' : Bytes) (ht : hasTy S (.strct sid) (.st xs []) = true)
    (hdest : hasTy S (.strct sid) (.st ds h') = true)
    (hn : noHolderList xs = true) (hf : sizesFitList xs = true)
    (hr : rtOK S (.strct sid) (.st xs []) = true)
    (hd : depth (toWire S (.strct sid) (.st xs [])) ≤ 511) :
    ∃ w, decodeM Generated.params S sid (appendM Generated.params S sid (.st xs [])) (.st ds h') =
        .ok (w, (appendM Generated.params S sid (.st xs [])).length) ∧
      erase w = normTop S sid (.st xs []) (.st ds h') := by
  apply roundtrip_nocopy Instances.params_valid S hS hside sid xs ds h' ht hdest hn hf hr
  have : Generated.params.maxDepth = 1023 := rfl
  omega

/-- scalars are bit-exact (a double is its 64 bits: NaN payloads, -0.0) -/
theorem scalars_bit_exact (k : Kind) (n : Nat) (hk : k ≠ .enum) : normScalar k n = n := by
  cases k with
  | enum => exact absurd rfl hk
  | _ => rfl

/-- enums within 32 bits are exact, negative values included -/
theorem enum_within_32_bits_exact (n : Nat) (h64 : n < 2 ^ 64)
    (h32 : n < 2 ^ 31 ∨ 2 ^ 64 - 2 ^ 31 ≤ n) : normScalar .enum n = n := by
  simp only [normScalar, beq_self_eq_true, ↓reduceIte, sext32to64]
  split <;> omega

theorem strings_byte_exact (S : Schema) (s : Bytes) (d : Val) :
    norm S (.base .string) (.str s) d = .str s := rfl

theorem binaries_byte_exact (S : Schema) (n : Bool) (s : Bytes) (d : Val) :
    norm S (.base .binary) (.bin n s) d = .bin false s := rfl

/-- element order of lists and sets is preserved -/
theorem list_order_preserved (S : Schema) (e : Ty) (xs : List Val) :
    normList S e xs = xs.map (fun x => norm S e x (zeroVal S S.length e)) := normList_eq_map S e xs

/-- a nil non-optional container comes back empty -/
theorem nil_container_comes_back_empty (S : Schema) (s : Bool) (e k v : Ty) (d : Val) :
    norm S (.list s e) (.lst true []) d = .lst false [] ∧ norm S (.map k v) (.mp true []) d = .mp false [] :=
  ⟨rfl, rfl⟩

/-- a map with pairwise distinct keys (every Go map) comes back with the same entries -/
theorem map_entries_preserved (S : Schema) (k v : Ty) (es : List (Val × Val))
    (h : (normKeys S k es).Pairwise (fun a b => keyEq k a b = false)) :
    normEntries S k v es [] =
      es.map fun p => (norm S k p.1 (zeroVal S S.length k), norm S v p.2 (zeroVal S S.length v)) := by
  simpa using normEntries_distinct S k v es [] (by simpa using h)

/-- a written field comes back as its normal form; an omitted optional field comes back as the
    destination's value (the declared default of a default-initialised receiver) -/
theorem field_written_or_default (S : Schema) (sd : SDesc) (f : Field) (fr : List Field) (x : Val)
    (xr : List Val) (d : Val) (dr : List Val) :
    normFields S sd (f :: fr) (x :: xr) (d :: dr) =
      (if fieldWritten sd f x then norm S f.ty x d else d) :: normFields S sd fr xr dr := rfl

/-- the hypotheses are satisfiable: a recursive type with a double, a list and an optional pointer;
    the value has a NaN, a nil list and a nil pointer; the destination is the zero value -/
def exS : Schema := [{ fields := [
  { id := 1, req := .dflt, ty := .base .double }, { id := 2, req := .dflt, ty := .list false (.base .i32) },
  { id := 3, req := .optional, ty := .ptr (.strct 0) }] }]
def exV : List Val := [.sc 0x7ff8000000000001, .lst true [], .ptr (.st [.sc 1, .lst false [.sc 5, .sc 4294967295], .nilp] [])]
def exD : List Val := [.sc 0, .lst true [], .nilp]

example : exS.ok = true ∧ exS.rtSideB = true ∧ hasTy exS (.strct 0) (.st exV []) = true ∧
    hasTy exS (.strct 0) (.st exD []) = true ∧ noHolderList exV = true ∧ sizesFitList exV = true ∧
    rtOK exS (.strct 0) (.st exV []) = true ∧ depth (toWire exS (.strct 0) (.st exV [])) ≤ 511 := by
  decide

example : exS.rtSide := rtSide_of_rtSideB exS (by decide)

/-- and on that instance the normal form is the value with the nil list made empty -/
example : normTop exS 0 (.st exV []) (.st exD []) =
    .st [.sc 0x7ff8000000000001, .lst false [],
         .ptr (.st [.sc 1, .lst false [.sc 5, .sc 4294967295], .nilp] [])] [] := by
  rfl
/-- the theorems above that speak of `decodeM` / the reference reader are about the hand-written model
    of `Decode` / `decodeType` / `decodeStringNoCopy` / `decodeFixedSizeTypes` / `skipUnknown`
    (Decode.lean), written from exactly this control structure of the code (regenerated fingerprint) -/
theorem decoder_model_written_from_this_code : Generated.facts.decoderSkeleton = Skeleton.decoder :=
  Instances.skeleton_decoder

/-- … and those that speak of `appendM` / `sizeM` about the hand-written model of `appendStruct` /
    `appendAny` / the size walk / the entry points (Encode.lean), written from exactly this control
    structure of the code (regenerated fingerprint; the fast-path tables are regenerated themselves) -/
theorem encoder_model_written_from_this_code : Generated.facts.encoderSkeleton = Skeleton.encoder :=
  Instances.skeleton_encoder

/-- the schema the theorems quantify over reaches the codec through the descriptor tables (field index
    by id, required ids, offsets, per-field flags and fixed sizes, the type node's tag / size / alignment /
    element nodes): the declarations `structDesc`, `tField`, `tType` and the functions that fill them in
    (`fromDefsFields`, `fromDefsField`, `GetField`, `newTType`) are, as full text, those the model and the
    correspondence runs were validated against (regenerated fingerprint) -/
theorem descriptor_tables_built_as_modelled : Generated.facts.descTableSkeleton = Skeleton.descTable :=
  Instances.skeleton_descTable

/-- the rest of `internal/reflect` — every function and package-level declaration that neither a fingerprint, a table translation nor a protocol fact covers (the entry points' argument handling, the runtime-layout helpers of `hack.go`, `span`, `bitset`, the exception constructors, the pools, `utils.go`) — is, as full text, that of the tree the model was written from -/
theorem rest_of_codec_package_as_modelled : Generated.facts.residualReflectSkeleton = Skeleton.residualReflect := Instances.skeleton_residualReflect

end Frugal.C01
