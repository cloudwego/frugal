/- Property C03: the property theorems (and nothing else). -/
import Frugal.Proofs.DecodeRefine
import Frugal.Proofs.ReaderProps
import Frugal.Proofs.ReadTyped
import Frugal.Proofs.FieldOrder
import Frugal.Proofs.EraseTail
import Frugal.Props.Inst.Params
import Frugal.Props.Inst.F_skeleton_decoder
import Frugal.Props.Inst.F_valid_minWire
import Frugal.Props.Inst.F_skeleton_descTable
import Frugal.Props.Inst.F_skeleton_residualReflect
namespace Frugal.C03
open Frugal

/-- the reference parser accepts every well-formed message in one pass and consumes exactly it -/
theorem reference_parser_total (v : TVal) (fuel : Nat) (r : Bytes) (hw : wf v = true) (hd : depth v < fuel) :
    parse fuel v.tag (ser v ++ r) = some (v, r) := parse_ser v fuel r hw hd

/-- For every schema the tag language accepts, every well-formed struct message — fields in any
    order, duplicates, unknown fields of any type at any level, written under any other schema — and
    arbitrary trailing bytes and destination contents: `DecodeObject` returns exactly what the
    reference reader (lean/Frugal/Reader.lean) returns, and the number of bytes up to and including
    the top-level STOP. -/
theorem decoder_is_reference_reader (S : Schema) (hS : S.ok = true) (sid : Nat) (fs : List (Nat × TVal))
    (trailing : Bytes) (dest : Val) (hw : wfFields fs = true) :
    decodeM Generated.params S sid (ser (.strct fs) ++ trailing) dest =
      (readMessage Generated.params S sid fs trailing.length dest).mapv (·, (ser (.strct fs)).length) :=
  decodeM_refines Instances.params_valid S hS sid fs trailing dest hw

/-- the reference reader leaves every destination field the message does not carry untouched -/
theorem absent_fields_untouched (S : Schema) (total fuel : Nat) (sd : SDesc) (fs : List (Nat × TVal))
    (tail : Nat) (vs : List Val) (st' : LoopSt)
    (h : readFields Generated.params S total fuel sd fs tail { fs := vs } = .ok st') (j : Nat)
    (hj : j ∉ writtenIxs sd fs) : st'.fs.getD j default = vs.getD j default :=
  untouched _ S total fuel sd fs tail vs st' h j hj

/-- type soundness of the decoder: what `DecodeObject` returns for a well-formed message into a typed
    destination is a typed value of the struct — every scalar within the range of its Go kind (a bool
    is 0 or 1: the decoder stores `byte == 1`, D16), nil flags only on empty containers, no pointer to a
    pointer, holder bytes only where the type declares the holder, every struct at every level with
    exactly its schema's fields (`hasTy`).  For schemas without `nocopy` fields (`S.rtSide`; a view is not
    a value of this typing). -/
theorem decoded_value_is_typed (S : Schema) (hS : S.ok = true) (hside : S.rtSide) (sid : Nat)
    (fs : List (Nat × TVal)) (trailing : Bytes) (dest w : Val) (n : Nat)
    (hw : wfFields fs = true) (hd : hasTy S (.strct sid) dest = true)
    (h : decodeM Generated.params S sid (ser (.strct fs) ++ trailing) dest = .ok (w, n)) :
    hasTy S (.strct sid) w = true := by
  have h0 := (decodeM_accepted Instances.params_valid S hS sid fs trailing dest hw h).1
  exact readMessage_typed Generated.params S hS hside sid fs trailing.length dest _ hw hd h0

/-- **whatever the order of its fields**: for a schema without `nocopy` fields, a well-formed message and
    any permutation of its top-level fields in which no destination field is written twice, `DecodeObject`
    accepts the permuted message exactly as it accepts the original — same number of bytes, the same
    value in every field of the destination (the holder keeps the unrecognised fields in the new message
    order: C11).  (With `nocopy` fields the values are the same and only the recorded buffer offsets move:
    `C11.recognised_as_if_alone`; two occurrences of one field do not commute — see the example below.)
    Nested structs: the same statement one level down, for the message the nested struct is read from. -/
theorem field_order_immaterial (S : Schema) (hS : S.ok = true)
    (hnc : ∀ sid, ∀ f ∈ (S.get sid).fields, f.nocopy = false) (sid : Nat)
    (fs fs' : List (Nat × TVal)) (hp : fs.Perm fs') (hnd : (writtenIxs (S.get sid) fs).Nodup)
    (hw : wfFields fs = true) (trailing trailing' : Bytes) (dest w : Val) (n : Nat)
    (h : decodeM Generated.params S sid (ser (.strct fs) ++ trailing) dest = .ok (w, n)) :
    ∃ w', decodeM Generated.params S sid (ser (.strct fs') ++ trailing') dest = .ok (w', n) ∧
      w'.fieldsOf = w.fieldsOf := by
  simpa only [List.map_id] using decodeM_perm Instances.params_valid S hS sid
    (fun fuel => FieldG.exact _ S fuel _ hnc (hnc sid)) hp hnd hw trailing trailing' dest w n h

/-- … and for **every** schema, `nocopy` fields included: the same, up to where the bytes of `nocopy` strings
    live (`eraseList` forgets the buffer offset a view records — the permuted message is a different byte
    string, so the offsets move while the bytes they show do not; `hdf`: declared defaults are not views) -/
theorem field_order_immaterial_any_schema (S : Schema) (hS : S.ok = true)
    (hdf : ∀ sid, ∀ f ∈ (S.get sid).fields, ∀ d, f.dflt = some d → plain d = true) (sid : Nat)
    (fs fs' : List (Nat × TVal)) (hp : fs.Perm fs') (hnd : (writtenIxs (S.get sid) fs).Nodup)
    (hw : wfFields fs = true) (trailing trailing' : Bytes) (dest w : Val) (n : Nat)
    (h : decodeM Generated.params S sid (ser (.strct fs) ++ trailing) dest = .ok (w, n)) :
    ∃ w', decodeM Generated.params S sid (ser (.strct fs') ++ trailing') dest = .ok (w', n) ∧
      eraseList w'.fieldsOf = eraseList w.fieldsOf := by
  simpa only [eraseList_eq_map] using decodeM_perm Instances.params_valid S hS sid
    (fun fuel => FieldG.erase _ S fuel _ hdf) hp hnd hw trailing trailing' dest w n h

/-- not vacuous: `{1: i32, 2: i32}` and a message carrying each field once (the hypothesis is needed: a
    second occurrence of field 1 does not commute with the first — the last one wins, as the `dec` lines
    with duplicated fields show on the model and on the code alike) -/
def exOrd : Schema :=
  [{ fields := [{ id := 1, req := .dflt, ty := .base .i32 }, { id := 2, req := .dflt, ty := .base .i32 }] }]
example : exOrd.ok = true ∧ (writtenIxs (exOrd.get 0) [(1, .i32 5), (2, .i32 6)]).Nodup ∧
    ¬ (writtenIxs (exOrd.get 0) [(1, .i32 5), (1, .i32 7)]).Nodup ∧
    wfFields [(1, .i32 5), (2, .i32 6)] = true := by decide

/-- … and for **every** schema, `nocopy` fields included: forgetting where the bytes of views live (`erase`
    turns a view into the string it shows; C14 says where they live), the decoded value is a typed value.
    Side conditions as in C01: declared defaults are values of their field's type, the zero value of every
    struct is one (finite by-value nesting) — Go's typing of `InitDefault` and of struct declarations. -/
theorem decoded_value_is_typed_any_schema (S : Schema) (hS : S.ok = true)
    (hdt : ∀ sid, ∀ f ∈ (S.get sid).fields, ∀ d, f.dflt = some d → hasTy S f.ty d = true)
    (hz : ∀ sid, hasTy S (.strct sid) (zeroVal S S.length (.strct sid)) = true) (sid : Nat)
    (fs : List (Nat × TVal)) (trailing : Bytes) (dest w : Val) (n : Nat)
    (hw : wfFields fs = true) (hd : hasTy S (.strct sid) (erase dest) = true)
    (h : decodeM Generated.params S sid (ser (.strct fs) ++ trailing) dest = .ok (w, n)) :
    hasTy S (.strct sid) (erase w) = true := by
  have h0 := (decodeM_accepted Instances.params_valid S hS sid fs trailing dest hw h).1
  exact readMessage_typedE Generated.params S hS hdt hz sid fs trailing.length dest _ hw hd h0

/-- a bool byte is read as every Thrift reader reads it: 1 is true, anything else false -/
theorem bool_byte_is_one_or_zero (n : Nat) :
    readFixed .bool (.bool n) = .ok (.sc (if n = 1 then 1 else 0)) := rfl

/-- the count checks never reject a well-formed message -/
theorem minWire_sound : Generated.params.validMinWire = true := Instances.valid_minWire

/-- non-vacuity: a message with an unknown field, a duplicate and a nested list -/
example : wfFields [(1, .i32 7), (9, .list 11 [.str [65]]), (1, .i32 8)] = true := by decide
/-- the hand-written model of the decoder functions (`Decode`, `decodeType`, `decodeStringNoCopy`, `decodeFixedSizeTypes`, `skipUnknown`, `mallocIfPointer`, `Malloc`) was written from, and validated against, code with exactly this
    control structure (guards, switches, loops, returns, call sequence): regenerated fingerprint =
    committed fingerprint of the unchanged tree -/
theorem model_written_from_this_code : Generated.facts.decoderSkeleton = Skeleton.decoder := Instances.skeleton_decoder
/-- the schema the theorems quantify over reaches the codec through the descriptor tables (field index
    by id, required ids, offsets, per-field flags and fixed sizes, the type node's tag / size / alignment /
    element nodes): the declarations `structDesc`, `tField`, `tType` and the functions that fill them in
    (`fromDefsFields`, `fromDefsField`, `GetField`, `newTType`) are, as full text, those the model and the
    correspondence runs were validated against (regenerated fingerprint) -/
theorem descriptor_tables_built_as_modelled : Generated.facts.descTableSkeleton = Skeleton.descTable :=
  Instances.skeleton_descTable

/-- the rest of `internal/reflect` — every function and package-level declaration that neither a fingerprint, a table translation nor a protocol fact covers (the entry points' argument handling, the runtime-layout helpers of `hack.go`, `span`, `bitset`, the exception constructors, the pools, `utils.go`) — is, as full text, that of the tree the model was written from -/
theorem rest_of_codec_package_as_modelled : Generated.facts.residualReflectSkeleton = Skeleton.residualReflect := Instances.skeleton_residualReflect

end Frugal.C03
