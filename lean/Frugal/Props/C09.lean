/- Property C09: the property theorems (and nothing else). -/
import Frugal.Proofs.BitsetLemmas
import Frugal.Proofs.ReaderProps
import Frugal.Proofs.DecodeRefine
import Frugal.Proofs.ReqEverywhere
import Frugal.Proofs.EncodeRefine
import Frugal.Props.Inst.Params
import Frugal.Props.Inst.F_valid_bitset
import Frugal.Props.Inst.F_skeleton_decoder
import Frugal.Props.Inst.F_skeleton_encoder
import Frugal.Props.Inst.F_skeleton_descTable
import Frugal.Props.Inst.F_skeleton_resolver
namespace Frugal.C09
open Frugal
theorem ids_in_range (i : Nat) (hi : i < 65536) : bsInRange Generated.params i = true :=
  bsInRange_of_lt (bsOK_of_valid Instances.valid_bitset) hi
theorem set_then_test (s : BitSet) (i j : Nat) :
    (s.set Generated.params i).test Generated.params j = (decide (i = j) || s.test Generated.params j) :=
  test_set (bsOK_of_valid Instances.valid_bitset) s i j
theorem unset_then_test (s : BitSet) (i j : Nat) :
    (s.unset Generated.params i).test Generated.params j = (!decide (i = j) && s.test Generated.params j) :=
  test_unset (bsOK_of_valid Instances.valid_bitset) s i j
/-- a required id tests true after the field loop exactly when it was decoded, whatever the pooled
    set contained before -/
theorem required_bit_exact (s0 : BitSet) (req seen : List Nat) (r : Nat) (hr : r ∈ req) :
    (presenceRun Generated.params s0 req seen).test Generated.params r = decide (r ∈ seen) :=
  presence_clean (bsOK_of_valid Instances.valid_bitset) s0 req seen r hr

/-- the presence record after the field loop is exactly the set of schema fields that occurred in
    the message with their declared wire type (a mistyped occurrence does not count) -/
theorem presence_is_occurrence (S : Schema) (total fuel : Nat) (sd : SDesc) (fs : List (Nat × TVal))
    (tail : Nat) (vs : List Val) (st' : LoopSt)
    (h : readFields Generated.params S total fuel sd fs tail { fs := vs } = .ok st') (i : Nat) :
    i ∈ st'.seen ↔ i ∈ knownIds sd fs :=
  seen_exact _ S total fuel sd fs tail vs st' h i

/-- every struct, at every nesting level: rejected with an error naming the first required field
    that did not occur; accepted on that account exactly when none is missing -/
theorem required_verdict (S : Schema) (total fuel sid : Nat) (fs : List (Nat × TVal)) (tail : Nat)
    (vs : List Val) (h : Bytes) (st' : LoopSt)
    (hloop : readFields Generated.params S total fuel (S.get sid) fs (tail + 1) { fs := vs } = .ok st') :
    readStruct Generated.params S total (fuel + 1) sid fs tail (.st vs h) =
      match firstMissing (S.get sid).fields st'.seen with
      | some f => .err (.required f.name)
      | none => .ok (.st st'.fs (if (S.get sid).hasHolder && st'.unk.length > 0 then st'.unk else h)) :=
  Frugal.required_verdict _ S total fuel sid fs tail vs h st' hloop

theorem none_missing_iff (fields : List Field) (seen : List Nat) :
    firstMissing fields seen = none ↔ ∀ f ∈ fields, f.req = .required → f.id ∈ seen :=
  firstMissing_none_iff fields seen

theorem missing_is_required_and_absent (fields : List Field) (seen : List Nat) (f : Field)
    (h : firstMissing fields seen = some f) : f ∈ fields ∧ f.req = .required ∧ f.id ∉ seen :=
  firstMissing_some_spec fields seen f h

/-- the encoder writes every required field, whatever its value (zero, nil, equal to a default) -/
theorem required_always_written (sd : SDesc) (f : Field) (v : Val) (h : f.req = .required) :
    fieldWritten sd f v = true :=
  written_of_required sd f v h
/-- **at any nesting level, inside any container**: when `DecodeObject` accepts a well-formed
    message, every struct in it that is read into a destination — the top level, struct fields, list /
    set elements, map keys and values, at any depth — carried every field its type declares required,
    with the declared wire type (`reqOK`, Proofs/ReqEverywhere.lean) -/
theorem accepted_means_required_everywhere (S : Schema) (hS : S.ok = true) (sid : Nat)
    (fs : List (Nat × TVal)) (trailing : Bytes) (dest v : Val) (n : Nat) (hw : wfFields fs = true)
    (h : decodeM Generated.params S sid (ser (.strct fs) ++ trailing) dest = .ok (v, n)) :
    reqOK S (.strct sid) (.strct fs) = true :=
  readMessage_reqOK Generated.params S hS sid fs trailing.length dest v
    (decodeM_accepted Instances.params_valid S hS sid fs trailing dest hw h).1

/-- … equivalently: a struct lacking a required field anywhere on a known path is rejected -/
theorem missing_required_anywhere_is_rejected (S : Schema) (hS : S.ok = true) (sid : Nat)
    (fs : List (Nat × TVal)) (trailing : Bytes) (dest : Val) (hw : wfFields fs = true)
    (hmiss : reqOK S (.strct sid) (.strct fs) = false) :
    (decodeM Generated.params S sid (ser (.strct fs) ++ trailing) dest).isOk = false := by
  cases hd : decodeM Generated.params S sid (ser (.strct fs) ++ trailing) dest with
  | ok p => cases hmiss.symm.trans (accepted_means_required_everywhere S hS sid fs trailing dest p.1 p.2 hw hd)
  | err _ | panic _ => rfl

/-- the nested case is not vacuous: a list element lacking its required field -/
example : let S : Schema := [{ fields := [{ id := 1, req := .dflt, ty := .list false (.strct 1) }] },
                             { fields := [{ id := 7, req := .required, ty := .base .i32 }] }]
    reqOK S (.strct 0) (.strct [(1, .list 12 [.strct [(7, .i32 5)], .strct []])]) = false := by decide
/-- the theorems above that speak of `decodeM` / the reference reader are about the hand-written model
    of `Decode` / `decodeType` / `decodeStringNoCopy` / `decodeFixedSizeTypes` / `skipUnknown`
    (Decode.lean), written from exactly this control structure of the code (regenerated fingerprint) -/
theorem decoder_model_written_from_this_code : Generated.facts.decoderSkeleton = Skeleton.decoder :=
  Instances.skeleton_decoder

/-- … and those that speak of `appendM` / `sizeM` about the hand-written model of `appendStruct` /
    `appendAny` / the size walk / the entry points (Encode.lean), written from exactly this control
    structure of the code (regenerated fingerprint; the fast-path tables are regenerated themselves) -/
theorem encoder_model_written_from_this_code : Generated.facts.encoderSkeleton = Skeleton.encoder :=
  Instances.skeleton_encoder

/-- the schema the theorems quantify over reaches the codec through the descriptor tables (field index
    by id, required ids, offsets, per-field flags and fixed sizes, the type node's tag / size / alignment /
    element nodes): the declarations `structDesc`, `tField`, `tType` and the functions that fill them in
    (`fromDefsFields`, `fromDefsField`, `GetField`, `newTType`) are, as full text, those the model and the
    correspondence runs were validated against (regenerated fingerprint) -/
theorem descriptor_tables_built_as_modelled : Generated.facts.descTableSkeleton = Skeleton.descTable :=
  Instances.skeleton_descTable

/-- what a field is *declared* to be — required / optional, `nocopy`, the holder — is read from the
    struct tags by the resolver (`DoResolveFields`, `lookupStructTag`, the annotation parser,
    `newStructDesc`, `fromDefsField`): the model of it (Tags.lean) was written from exactly this control
    structure of the code (regenerated fingerprint; C12 / C13 prove what the model does) -/
theorem schema_read_from_tags_as_modelled : Generated.facts.resolverSkeleton = Skeleton.resolver :=
  Instances.skeleton_resolver

end Frugal.C09
