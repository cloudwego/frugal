/- Property C05: the property theorems (and nothing else). -/
import Frugal.Proofs.DecodeSafe
import Frugal.Proofs.SkipCorrect
import Frugal.Proofs.DecodeRefine
import Frugal.Proofs.DecodeSound
import Frugal.Proofs.DecodeErrors
import Frugal.Props.Inst.Params
import Frugal.Proofs.Cells
import Frugal.Props.Inst.F_facts_allocationDiscipline
import Frugal.Props.Inst.F_skeleton_decoder
import Frugal.Props.Inst.F_valid_minWire
import Frugal.Props.Inst.F_valid_minWireFixed
import Frugal.Props.Inst.F_valid_skip
import Frugal.Props.Inst.F_skeleton_descTable
namespace Frugal.C05
open Frugal

theorem count_checks_sound : Generated.params.validMinWire = true ∧ Generated.params.validMinWireFixed = true ∧
    Generated.params.validSkip = true :=
  ⟨Instances.valid_minWire, Instances.valid_minWireFixed, Instances.valid_skip⟩

/-- For every schema, every byte string, every destination and every pool state: `DecodeObject`
    (every Go read modelled as partial) never panics. The decoder's definition is accepted by Lean's
    termination checker with the depth budget and the input length as only measures. -/
theorem decode_never_panics (S : Schema) (sid : Nat) (b : Bytes) (dest : Val) :
    (decodeM Generated.params S sid b dest).isPanic = false :=
  decodeM_safe Instances.params_valid S sid b dest

/-- the same at every nested position and with every remaining budget -/
theorem decodeType_never_panics (S : Schema) (total fuel : Nat) (t : Ty) (b : Bytes) (dest : Val) :
    (decodeType Generated.params S total fuel t b dest).isPanic = false :=
  decodeType_safe Instances.params_valid S total fuel t b dest

/-- on well-formed data the skipper returns exactly the length of what it skips (or a depth error):
    it never runs past the value it was asked to skip -/
theorem skipper_exact (v : TVal) (fuel : Nat) (r : Bytes) (hw : wf v = true) :
    skipType Generated.params fuel v.tag (ser v ++ r) =
      if skipNeed v ≤ fuel then .ok (ser v).length else .err .depth :=
  skipType_ser Instances.params_valid v fuel r hw

/-- **success only on well-formed input**: when `DecodeObject` succeeds with count `n`, the input
    begins with a well-formed struct message (every scalar in its width, every length and count a
    non-negative int32 that fits, every id 16 bits, every element of the container's declared type,
    every field value of the field header's type) whose serialisation is exactly the first `n`
    bytes.  (`wf` asks of a container's element / key / value code that it be a non-negative int8;
    for a non-empty container the elements carry that code, so it is a protocol type code; the code of
    an *empty* container inside skipped data is inspected by no Thrift skipper.  What frugal itself
    writes has protocol codes everywhere: `C02.codes_are_protocol_codes`.) -/
theorem success_means_wellformed_prefix (S : Schema) (hS : S.ok = true) (sid : Nat) (b : Bytes)
    (dest v : Val) (n : Nat) (h : decodeM Generated.params S sid b dest = .ok (v, n)) :
    ∃ fs trailing, wfFields fs = true ∧ b = ser (.strct fs) ++ trailing ∧ n = (ser (.strct fs)).length :=
  decodeM_sound S Instances.params_valid hS sid b dest v n h

/-- in particular the count never exceeds the input: the decoder reads nothing outside it -/
theorem consumed_within_input (S : Schema) (hS : S.ok = true) (sid : Nat) (b : Bytes)
    (dest v : Val) (n : Nat) (h : decodeM Generated.params S sid b dest = .ok (v, n)) : n ≤ b.length := by
  obtain ⟨fs, tr, _, e, hn⟩ := success_means_wellformed_prefix S hS sid b dest v n h
  rw [e, hn]
  simp

/-- memory on the accepting side: the message a successful decode consumed has fewer *cells* — struct
    field values, list / set elements, map keys and values, at every nesting level: the things the decoder
    allocates storage for, each of bounded size — than bytes.  What `DecodeObject` accepts it built in memory
    proportional to the input it consumed; a disproportion (the open finding D22: nested counts each
    claiming the rest of the input) is confined to inputs that end in an error. -/
theorem accepted_input_has_fewer_cells_than_bytes (S : Schema) (hS : S.ok = true) (sid : Nat) (b : Bytes)
    (dest v : Val) (n : Nat) (h : decodeM Generated.params S sid b dest = .ok (v, n)) :
    ∃ fs trailing, b = ser (.strct fs) ++ trailing ∧ n = (ser (.strct fs)).length ∧
      cells (.strct fs) < n := by
  obtain ⟨fs, tr, _, e, hn⟩ := success_means_wellformed_prefix S hS sid b dest v n h
  refine ⟨fs, tr, e, hn, ?_⟩
  have := cells_lt_ser (.strct fs)
  omega

/-- … and conversely on every well-formed message the decoder does what the reference reader does
    (C03): together, success exactly when the bytes begin with a well-formed message that a reader
    for the type accepts -/
theorem wellformed_prefix_decodes_as_reader (S : Schema) (hS : S.ok = true) (sid : Nat)
    (fs : List (Nat × TVal)) (trailing : Bytes) (dest : Val) (hw : wfFields fs = true) :
    decodeM Generated.params S sid (ser (.strct fs) ++ trailing) dest =
      (readMessage Generated.params S sid fs trailing.length dest).mapv (·, (ser (.strct fs)).length) :=
  decodeM_refines Instances.params_valid S hS sid fs trailing dest hw

/-- **success exactly when the bytes begin with a well-formed message that a reader for the type
    accepts**: both directions, for every schema, byte string and destination -/
theorem success_iff (S : Schema) (hS : S.ok = true) (sid : Nat) (b : Bytes) (dest : Val) :
    (decodeM Generated.params S sid b dest).isOk = true ↔
      ∃ fs trailing, wfFields fs = true ∧ b = ser (.strct fs) ++ trailing ∧
        (readMessage Generated.params S sid fs trailing.length dest).isOk = true := by
  constructor
  · intro h
    cases hd : decodeM Generated.params S sid b dest with
    | ok p =>
      obtain ⟨fs, tr, hw, e, _⟩ := success_means_wellformed_prefix S hS sid b dest p.1 p.2 hd
      rw [e] at hd
      refine ⟨fs, tr, hw, e, ?_⟩
      rw [(decodeM_accepted Instances.params_valid S hS sid fs tr dest hw hd).1]
      rfl
    | _ =>
      rw [hd] at h
      cases h
  · rintro ⟨fs, tr, hw, e, hr⟩
    rw [e, wellformed_prefix_decodes_as_reader S hS sid fs tr dest hw]
    cases hrr : readMessage Generated.params S sid fs tr.length dest with
    | ok _ => rfl
    | _ =>
      rw [hrr] at hr
      cases hr

/-- the skipper alone: a successful skip of `n ≤ len` bytes skipped exactly one well-formed value of
    the requested type -/
theorem skipper_sound (fuel t : Nat) (b : Bytes) (n : Nat)
    (h : skipType Generated.params fuel t b = .ok n) (hn : n ≤ b.length) :
    ∃ tv, wf tv = true ∧ tv.tag = t ∧ b = ser tv ++ b.drop n :=
  skipType_sound Instances.params_valid fuel t b n h hn

/-- a corrupted length or count cannot trigger a large allocation: in `decodeType` every allocation
    whose size comes from the wire (`d.Malloc(l…)`, `reflect.MakeMapWithSize(t.RT, l)`; 6 sites) comes
    after the size check of its case clause (regenerated fact about statement order) … -/
theorem allocations_follow_size_checks : Generated.facts.allocationDiscipline = true :=
  Instances.facts_allocationDiscipline

/-- … and those checks, in the decoder as written, reject every count that the remaining bytes
    cannot hold, before the element loop: lists and sets, -/
theorem list_count_exceeding_input_is_error (S : Schema) (total fuel : Nat) (s : Bool) (et : Ty)
    (b r r1 : Bytes) (tp l : Nat) (dest : Val)
    (hf : Generated.params.fixedSize (Ty.list s et).tt = 0)
    (h8 : rd8 b = some (tp, r)) (h32 : rd32 r = some (l, r1))
    (hlen : ¬ b.length < Generated.params.listHeaderLen)
    (hneg : ¬ l ≥ 2147483648) (hty : et.wire = tp) (hl0 : l ≠ 0)
    (hper : Generated.params.minWireOf et.wire ≠ 0)
    (hbig : l > r1.length / Generated.params.minWireOf et.wire) :
    decodeType Generated.params S total (fuel + 1) (.list s et) b dest = .err .sizeLimit :=
  list_count_exceeds _ S total fuel s et b r r1 tp l dest hf h8 h32 hlen hneg hty hl0 hper hbig

/-- maps, -/
theorem map_count_exceeding_input_is_error (S : Schema) (total fuel : Nat) (kt vt : Ty)
    (b r r1 r2 : Bytes) (t0 t1 l : Nat) (dest : Val)
    (hf : Generated.params.fixedSize (Ty.map kt vt).tt = 0)
    (h8a : rd8 b = some (t0, r)) (h8b : rd8 r = some (t1, r1)) (h32 : rd32 r1 = some (l, r2))
    (hlen : ¬ b.length < Generated.params.mapHeaderLen) (hneg : ¬ l ≥ 2147483648)
    (hk : t0 = kt.wire) (hv : t1 = vt.wire)
    (hper : Generated.params.minWireOf kt.wire + Generated.params.minWireOf vt.wire ≠ 0)
    (hbig : l > r2.length / (Generated.params.minWireOf kt.wire + Generated.params.minWireOf vt.wire)) :
    decodeType Generated.params S total (fuel + 1) (.map kt vt) b dest = .err .sizeLimit :=
  map_count_exceeds _ S total fuel kt vt b r r1 r2 t0 t1 l dest hf h8a h8b h32 hlen hneg hk hv hper hbig

/-- strings and binaries -/
theorem string_length_exceeding_input_is_error (total : Nat) (isBin nocopy : Bool) (b r : Bytes) (l : Nat)
    (h32 : rd32 b = some (l, r)) (hneg : ¬ l ≥ 2147483648) (hbig : l > r.length) :
    decodeStr isBin nocopy total b = .err .sizeLimit :=
  str_length_exceeds total isBin nocopy b r l h32 hneg hbig

/-- negative lengths and counts are errors -/
theorem negative_sizes_are_errors (S : Schema) (total fuel : Nat) :
    (∀ (isBin nocopy : Bool) (b r : Bytes) (l : Nat), rd32 b = some (l, r) → l ≥ 2147483648 →
      decodeStr isBin nocopy total b = .err .negative) ∧
    (∀ (s : Bool) (et : Ty) (b r r1 : Bytes) (tp l : Nat) (dest : Val),
      Generated.params.fixedSize (Ty.list s et).tt = 0 → rd8 b = some (tp, r) → rd32 r = some (l, r1) →
      ¬ b.length < Generated.params.listHeaderLen → l ≥ 2147483648 →
      decodeType Generated.params S total (fuel + 1) (.list s et) b dest = .err .negative) ∧
    (∀ (kt vt : Ty) (b r r1 r2 : Bytes) (t0 t1 l : Nat) (dest : Val),
      Generated.params.fixedSize (Ty.map kt vt).tt = 0 → rd8 b = some (t0, r) → rd8 r = some (t1, r1) →
      rd32 r1 = some (l, r2) → ¬ b.length < Generated.params.mapHeaderLen → l ≥ 2147483648 →
      decodeType Generated.params S total (fuel + 1) (.map kt vt) b dest = .err .negative) :=
  ⟨str_negative_length total, list_negative_count _ S total fuel, map_negative_count _ S total fuel⟩

/-- mismatching element / key / value type codes are errors -/
theorem mismatching_codes_are_errors (S : Schema) (total fuel : Nat) :
    (∀ (s : Bool) (et : Ty) (b r r1 : Bytes) (tp l : Nat) (dest : Val),
      Generated.params.fixedSize (Ty.list s et).tt = 0 → rd8 b = some (tp, r) → rd32 r = some (l, r1) →
      ¬ b.length < Generated.params.listHeaderLen → ¬ l ≥ 2147483648 → et.wire ≠ tp →
      decodeType Generated.params S total (fuel + 1) (.list s et) b dest = .err .typeMismatch) ∧
    (∀ (kt vt : Ty) (b r r1 r2 : Bytes) (t0 t1 l : Nat) (dest : Val),
      Generated.params.fixedSize (Ty.map kt vt).tt = 0 → rd8 b = some (t0, r) → rd8 r = some (t1, r1) →
      rd32 r1 = some (l, r2) → ¬ b.length < Generated.params.mapHeaderLen → ¬ l ≥ 2147483648 →
      (t0 ≠ kt.wire ∨ t1 ≠ vt.wire) →
      decodeType Generated.params S total (fuel + 1) (.map kt vt) b dest = .err .typeMismatch) :=
  ⟨list_type_mismatch _ S total fuel, map_type_mismatch _ S total fuel⟩

/-- truncated headers are errors -/
theorem truncated_headers_are_errors (S : Schema) (total fuel : Nat) (s : Bool) (et : Ty) (b : Bytes)
    (dest : Val) (hf : Generated.params.fixedSize (Ty.list s et).tt = 0) (hshort : b.length < 5) :
    decodeType Generated.params S total (fuel + 1) (.list s et) b dest = .err .short ∧
    (∀ (isBin nocopy : Bool) (b' : Bytes), rd32 b' = none → decodeStr isBin nocopy total b' = .err .short) :=
  ⟨list_truncated_header _ S total fuel s et b dest hf hshort, str_truncated_length total⟩

/-- witness that the `panic` outcome is not vacuous in the model: an unguarded fixed-size read of a
    short buffer is a bounds panic (this is what the regenerated guards exclude) -/
example : decodeFixed .i32 [1, 2] = .panic .bounds := rfl
/-- the hand-written model of the decoder functions was written from, and validated against, code with exactly this
    control structure (guards, switches, loops, returns, call sequence): regenerated fingerprint =
    committed fingerprint of the unchanged tree -/
theorem model_written_from_this_code : Generated.facts.decoderSkeleton = Skeleton.decoder := Instances.skeleton_decoder
/-- the schema the theorems quantify over reaches the codec through the descriptor tables (field index
    by id, required ids, offsets, per-field flags and fixed sizes, the type node's tag / size / alignment /
    element nodes): the declarations `structDesc`, `tField`, `tType` and the functions that fill them in
    (`fromDefsFields`, `fromDefsField`, `GetField`, `newTType`) are, as full text, those the model and the
    correspondence runs were validated against (regenerated fingerprint) -/
theorem descriptor_tables_built_as_modelled : Generated.facts.descTableSkeleton = Skeleton.descTable :=
  Instances.skeleton_descTable

end Frugal.C05
