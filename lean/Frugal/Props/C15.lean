/- Property C15: the property theorems (and nothing else). -/
import Frugal.Proofs.DepthProps
import Frugal.Proofs.DecodeRefine
import Frugal.Proofs.DepthBound
import Frugal.Proofs.FuelMono
import Frugal.Proofs.DecodeSafe
import Frugal.Props.Inst.Params
import Frugal.Props.Inst.F_facts_recursionDiscipline
import Frugal.Props.Inst.F_valid_depth
import Frugal.Props.Inst.F_skeleton_decoder
namespace Frugal.C15
open Frugal
theorem recursion_discipline : Generated.facts.recursionDiscipline = true := Instances.facts_recursionDiscipline
theorem depth_constants : Generated.params.validDepth = true := Instances.valid_depth
/-- an exhausted budget is a depth error at both entry points; every recursive call is made with
    the budget decreased by one (the definitions recurse structurally on it), so the recursion — and
    with it the Go stack — is bounded by the budget whatever the input length -/
theorem zero_budget_struct (P : Params) (S : Schema) (t sid : Nat) (b : Bytes) (d : Val) :
    decodeStruct P S t 0 sid b d = .err .depth := decodeStruct_zero ..
theorem zero_budget_value (P : Params) (S : Schema) (t : Nat) (ty : Ty) (b : Bytes) (d : Val) :
    decodeType P S t 0 ty b d = .err .depth := decodeType_zero ..

/-- a well-formed message nested no deeper than 48 levels (structs, lists, sets, maps in any
    mixture, known and unknown positions) is never rejected with a depth error -/
theorem shallow_always_accepted (S : Schema) (hS : S.ok = true) (sid : Nat) (fs : List (Nat × TVal))
    (trailing : Bytes) (dest : Val) (hw : wfFields fs = true) (hd : depth (.strct fs) ≤ 48) :
    (decodeM Generated.params S sid (ser (.strct fs) ++ trailing) dest).isDepthErr = false := by
  rw [decodeM_refines Instances.params_valid S hS sid fs trailing dest hw, mapv_isDepthErr]
  exact shallow_accepted _ S sid fs trailing.length dest hd (depth_bounds Instances.params_valid).1
    (skipDepth_eq Instances.params_valid)

/-- the other direction: whatever `DecodeObject` accepts is nested at most 1023 levels along the
    positions its schema recognises (`knownDepth`: one per struct / list / set / map reached through
    known fields with their declared wire type, elements, keys and values — whatever the mixture);
    induction over the reader (Proofs/DepthBound.lean), then C03 -/
theorem accepted_is_within_bound (S : Schema) (hS : S.ok = true) (sid : Nat) (fs : List (Nat × TVal))
    (trailing : Bytes) (dest w : Val) (n : Nat) (hw : wfFields fs = true)
    (h : decodeM Generated.params S sid (ser (.strct fs) ++ trailing) dest = .ok (w, n)) :
    knownDepth S (.strct sid) (.strct fs) ≤ 1023 :=
  readMessage_depth Generated.params S sid fs trailing.length dest w
    (decodeM_accepted Instances.params_valid S hS sid fs trailing dest hw h).1

/-- … so a well-formed message nested more deeply than that on a recognised path is rejected with an
    error, however long it is: never accepted (above), never a panic (C05), and the recursion is on
    the budget (`zero_budget_*`), not on the input. -/
theorem deeper_known_nesting_is_an_error (S : Schema) (hS : S.ok = true) (sid : Nat)
    (fs : List (Nat × TVal)) (trailing : Bytes) (dest : Val) (hw : wfFields fs = true)
    (hdeep : knownDepth S (.strct sid) (.strct fs) > 1023) :
    ∃ e, decodeM Generated.params S sid (ser (.strct fs) ++ trailing) dest = .err e := by
  have hp := decodeM_safe Instances.params_valid S sid (ser (.strct fs) ++ trailing) dest
  cases hres : decodeM Generated.params S sid (ser (.strct fs) ++ trailing) dest with
  | ok p => exact absurd (accepted_is_within_bound S hS sid fs trailing dest p.1 p.2 hw hres) (Nat.not_le.2 hdeep)
  | err e => exact ⟨e, rfl⟩
  | panic p => rw [hres] at hp; cases hp

/-- **the depth-limit error, not another one.**  The budget only ever turns an outcome into the
    depth-limit error (`readStruct_mono_add`, Proofs/FuelMono.lean: an outcome other than that error is
    the outcome under every larger budget).  Hence a well-formed message that is nested more deeply
    than the bound on a recognised path and is otherwise acceptable — some larger budget `1023 + k`
    would accept it — is rejected with exactly the depth-limit error. -/
theorem deep_but_otherwise_valid_is_the_depth_error (S : Schema) (hS : S.ok = true) (sid : Nat)
    (fs : List (Nat × TVal)) (trailing : Bytes) (dest : Val) (hw : wfFields fs = true)
    (hdeep : knownDepth S (.strct sid) (.strct fs) > 1023)
    (hvalid : ∃ k w, readStruct Generated.params S ((ser (.strct fs)).length + trailing.length)
      (1023 + k) sid fs trailing.length dest = .ok w) :
    decodeM Generated.params S sid (ser (.strct fs) ++ trailing) dest = .err .depth := by
  obtain ⟨k, w, hk⟩ := hvalid
  rw [decodeM_refines Instances.params_valid S hS sid fs trailing dest hw]
  have hm : Generated.params.maxDepth = 1023 := rfl
  unfold readMessage
  rw [hm]
  generalize hr : readStruct Generated.params S ((ser (.strct fs)).length + trailing.length) 1023 sid fs
    trailing.length dest = o
  cases hnd : o.isDepthErr with
  | true =>
    cases o with
    | err e => cases e <;> first | rfl | cases hnd
    | _ => cases hnd
  | false =>
    rw [← hr] at hnd
    have := readStruct_mono_add Generated.params S _ k 1023 sid fs trailing.length dest hnd
    rw [hk] at this
    have := readMessage_depth Generated.params S sid fs trailing.length dest w this.symm
    omega

/-- skipped (unknown) data deeper than the skipper's own limit is a depth error, not a crash -/
theorem deep_unknown_is_depth_error (v : TVal) (r : Bytes) (hw : wf v = true)
    (hdeep : skipNeed v > Generated.params.skipDepth) :
    skipType Generated.params Generated.params.skipDepth v.tag (ser v ++ r) = .err .depth := by
  rw [skipType_ser Instances.params_valid v _ r hw]
  simp [Nat.not_le.2 hdeep]
/-- the theorems above that speak of `decodeM` / the reference reader are about the hand-written model
    of `Decode` / `decodeType` / `decodeStringNoCopy` / `decodeFixedSizeTypes` / `skipUnknown`
    (Decode.lean), written from exactly this control structure of the code (regenerated fingerprint) -/
theorem decoder_model_written_from_this_code : Generated.facts.decoderSkeleton = Skeleton.decoder :=
  Instances.skeleton_decoder

end Frugal.C15
