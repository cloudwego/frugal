/- Property C06: the property theorems (and nothing else). -/
import Frugal.Proofs.AllocLemmas
import Frugal.Props.Inst.F_facts_typedAllocation
import Frugal.Props.Inst.F_valid_span
namespace Frugal.C06
open Frugal

-- `hs` says the state is well formed; a state with `s.p > s.n` opens a new block at once, so the proof
-- does not need it; it is kept so that the statement reads as the property does
set_option linter.unusedVariables false in
/-- every region the bump allocator hands out is aligned as requested and lies inside its block,
    for every request sequence and whatever block addresses the runtime returns -/
theorem regions_aligned_in_block (reqs : List (Nat × Nat × Nat)) (s : SpanSt) (hs : s.p ≤ s.n)
    (ha : ∀ q ∈ reqs, 0 < q.2.1) :
    ∀ r ∈ spanRegions Generated.params.blockSize s reqs, r.ok :=
  fun r hr => (spanRegions_spec _ reqs s ha r hr).1

-- `hs`: as above
set_option linter.unusedVariables false in
/-- two regions handed out from the same block never overlap -/
theorem regions_disjoint (reqs : List (Nat × Nat × Nat)) (s : SpanSt) (hs : s.p ≤ s.n)
    (ha : ∀ q ∈ reqs, 0 < q.2.1) :
    (spanRegions Generated.params.blockSize s reqs).Pairwise
      (fun r1 r2 => r1.blk = r2.blk → r1.addr + r1.size ≤ r2.addr) :=
  spanRegions_disjoint _ reqs s ha

/-- the code's `(ret + mask) &^ mask` is the arithmetic `alignUp` of the model -/
theorem align_formula (a k : Nat) :
    (a + (2 ^ k - 1)) - ((a + (2 ^ k - 1)) &&& (2 ^ k - 1)) = alignUp a (2 ^ k - 1) := andNot_eq_alignUp a k

theorem span_constants : Generated.params.validSpan = true := Instances.valid_span

example : (SpanSt.init 2048 1000).p ≤ (SpanSt.init 2048 1000).n := by decide
/-- GC safety of what the decoder allocates: each of its 6 allocation sites passes the size, the
    alignment and the GC type of one and the same type node; `newTType` gives a GC type to exactly the
    kinds that can hold pointers (array, map, pointer, slice, string, struct), and `tDecoder.Malloc`
    sends every typed request to `mallocgc` (zeroed, scanned) — only string / binary bytes and
    pointer-free element arrays come from the span (regenerated facts about decoder.go, ttype.go) -/
theorem gc_typed_allocation : Generated.facts.typedAllocation = true := Instances.facts_typedAllocation
end Frugal.C06
