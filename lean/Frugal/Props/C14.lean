/- Property C14: the property theorems (and nothing else). -/
import Frugal.Proofs.DecodeRefine
import Frugal.Proofs.ViewsLemmas
import Frugal.Props.Inst.Params
import Frugal.Props.Inst.F_skeleton_decoder
import Frugal.Props.Inst.F_skeleton_descTable
import Frugal.Props.Inst.F_skeleton_resolver
namespace Frugal.C14
open Frugal
/-- a zero-length value never references the input buffer, nocopy or not -/
theorem empty_never_views (isBin nocopy : Bool) (total : Nat) (r : Bytes) :
    decodeStr isBin nocopy total (0 :: 0 :: 0 :: 0 :: r) = .ok (if isBin then .bin false [] else .str [], r) := by
  simp [decodeStr, rd32]

/-- a non-empty nocopy value is a view of exactly its bytes: the offset is where the value's bytes
    start in the input (the 4-byte length prefix is skipped), the length is the value's, no spare
    capacity is modelled (cap = len) -/
theorem nocopy_views_value_bytes (isBin : Bool) (total : Nat) (s r : Bytes) (hs : s ≠ [])
    (hw : s.length < 2147483648) :
    decodeStr isBin true total (ser (.str s) ++ r) =
      .ok (if isBin then .vbin (total - (s.length + r.length)) s else .vstr (total - (s.length + r.length)) s, r) := by
  rw [decodeStr_ser isBin true total s r hw]
  have : ¬ s.length = 0 := fun h => hs (List.length_eq_zero_iff.mp h)
  simp [readStr, this, Outcome.mapv]

/-- without the option the value is copied: never a view -/
theorem copy_never_views (isBin : Bool) (total : Nat) (s r : Bytes) (hw : s.length < 2147483648) :
    decodeStr isBin false total (ser (.str s) ++ r) =
      .ok (if s.length = 0 then (if isBin then .bin false [] else .str []) else (if isBin then .bin false s else .str s), r) := by
  rw [decodeStr_ser isBin false total s r hw]
  by_cases h : s.length = 0 <;> simp [readStr, h, Outcome.mapv]

/-- **C14 for the whole decoder.**  Whatever well-formed message `DecodeObject` is given (any field
    order, duplicates, unknown fields, nesting, trailing bytes) and whatever destination without views
    it decodes into, in the value it returns a view of the input occurs only as the value of a field
    declared `nocopy` (plain or optional-pointer form, at any nesting level), and every such view
    `(off, s)` is non-empty and is exactly `input[off : off + len s]` (`viewsExact`, Views.lean); in
    particular no field without the option references the buffer and a zero-length value does not. -/
theorem decoded_views_exact (S : Schema) (hS : S.ok = true)
    (hdf : ∀ sid, ∀ f ∈ (S.get sid).fields, ∀ d, f.dflt = some d → plain d = true)
    (sid : Nat) (fs : List (Nat × TVal)) (trailing : Bytes) (vs : List Val) (hh : Bytes) (w : Val) (n : Nat)
    (hw : wfFields fs = true) (hdest : plainList vs = true)
    (h : decodeM Generated.params S sid (ser (.strct fs) ++ trailing) (.st vs hh) = .ok (w, n)) :
    viewsExact S (ser (.strct fs) ++ trailing) (.strct sid) w = true :=
  readMessage_views Generated.params S _ hdf sid fs trailing vs hh w rfl hdest
    (decodeM_accepted Instances.params_valid S hS sid fs trailing _ hw h).1

/-- what `viewsExact` says at a field: a `nocopy` field holds a value all of whose views are exact,
    any other field a value in which views occur only below `nocopy` fields -/
theorem views_at_fields (S : Schema) (inp : Bytes) (f : Field) (fr : List Field) (x : Val) (xr : List Val) :
    viewsExactFields S inp (f :: fr) (x :: xr) =
      ((if f.nocopy then viewsAt inp x else viewsExact S inp f.ty x) && viewsExactFields S inp fr xr) := rfl

/-- … and a view is exact when it is the bytes at its offset, non-empty -/
theorem view_is_exact (inp : Bytes) (off : Nat) (s : Bytes) :
    viewsAt inp (.vstr off s) = (decide ((inp.drop off).take s.length = s) && !s.isEmpty) := rfl

/-- a scalar / string / binary position that is not a `nocopy` field never holds a view -/
theorem base_never_views (S : Schema) (inp : Bytes) (k : Kind) (off : Nat) (s : Bytes) :
    viewsExact S inp (.base k) (.vstr off s) = false ∧ viewsExact S inp (.base k) (.vbin off s) = false :=
  ⟨rfl, rfl⟩
/-- the theorems above that speak of `decodeM` / the reference reader are about the hand-written model
    of `Decode` / `decodeType` / `decodeStringNoCopy` / `decodeFixedSizeTypes` / `skipUnknown`
    (Decode.lean), written from exactly this control structure of the code (regenerated fingerprint) -/
theorem decoder_model_written_from_this_code : Generated.facts.decoderSkeleton = Skeleton.decoder :=
  Instances.skeleton_decoder

/-- the schema the theorems quantify over reaches the codec through the descriptor tables (field index
    by id, required ids, offsets, per-field flags and fixed sizes, the type node's tag / size / alignment /
    element nodes): the declarations `structDesc`, `tField`, `tType` and the functions that fill them in
    (`fromDefsFields`, `fromDefsField`, `GetField`, `newTType`) are, as full text, those the model and the
    correspondence runs were validated against (regenerated fingerprint) -/
theorem descriptor_tables_built_as_modelled : Generated.facts.descTableSkeleton = Skeleton.descTable :=
  Instances.skeleton_descTable

/-- what a field is *declared* to be — required / optional, `nocopy`, the holder — is read from the
    struct tags by the resolver (`DoResolveFields`, `lookupStructTag`, the annotation parser,
    `newStructDesc`, `fromDefsField`): the model of it (Tags.lean) was written from exactly this control
    structure of the code (regenerated fingerprint; C12 / C13 prove what the model does) -/
theorem schema_read_from_tags_as_modelled : Generated.facts.resolverSkeleton = Skeleton.resolver :=
  Instances.skeleton_resolver

end Frugal.C14
