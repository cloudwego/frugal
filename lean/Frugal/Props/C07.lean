/- Property C07: the property theorems (and nothing else). -/
import Frugal.Proofs.BitsetLemmas
import Frugal.Proofs.BuildCacheLemmas
import Frugal.Proofs.BuildCacheMixed
import Frugal.Props.Inst.F_facts_buildProtocol
import Frugal.Props.Inst.F_facts_rollback
import Frugal.Props.Inst.F_valid_bitset
import Frugal.Proofs.TypeKeyLemmas
import Frugal.Props.Inst.F_facts_typeNodeCacheKeyed
import Frugal.Props.Inst.F_skeleton_sharedWrites
import Frugal.Props.Inst.F_facts_pointeeAfterLengthCheck
import Frugal.Props.Inst.F_skeleton_descTable
namespace Frugal.C07
open Frugal
/-- the required-field verdict is independent of the pooled presence set's prior contents -/
theorem presence_independent_of_pool (s0 s1 : BitSet) (req seen : List Nat) (r : Nat) (hr : r ∈ req) :
    (presenceRun Generated.params s0 req seen).test Generated.params r =
    (presenceRun Generated.params s1 req seen).test Generated.params r := by
  have h := bsOK_of_valid Instances.valid_bitset
  rw [presence_clean h s0 req seen r hr, presence_clean h s1 req seen r hr]

/-- the code journals and rolls back a failed build as `BuildCache.useType` does (regenerated
    structural fact about desc.go) -/
theorem failed_build_rolled_back : Generated.facts.rollbackOnFailedBuild = true := Instances.facts_rollback
/-- the five functions of the descriptor build consist of the statements the state machine models -/
theorem code_is_the_state_machine : Generated.facts.buildProtocol = true := Instances.facts_buildProtocol
theorem scratch_cleared : Generated.facts.scratchPooledAndCleared = true := by decide

/-- descriptor caches (BuildCache.lean: `sds`, `prefetchStructDescCache`, the `Sd` links of the
    type nodes): whatever calls were made earlier — successful or failed, on the same or other
    types, with a type first used on its own or first met nested inside another — a use of a type
    has the outcome it has in a fresh process -/
theorem outcome_independent_of_history (R : List (Option SDesc)) (hist : List Nat) (sid : Nat) :
    (useType R sid (useAll R hist {})).1 = (useType R sid {}).1 :=
  use_history_independent R hist sid

/-- … which is "every struct reachable from the type resolves" -/
theorem outcome_is_reachability (R : List (Option SDesc)) (hist : List Nat) (sid : Nat) :
    (useType R sid (useAll R hist {})).1 = true ↔ BGood R (sid, false) :=
  useType_ok_iff R sid _ (useAll_inv R hist {} (cinv_empty R))

/-- a failed use leaves every cache exactly as it was -/
theorem failed_use_leaves_no_trace (R : List (Option SDesc)) (sid : Nat) (st : CacheSt)
    (h : (useType R sid st).1 = false) : (useType R sid st).2 = st :=
  useType_fail_unchanged R sid st h

/-- the build runs user code (`InitDefault`, called to read the declared defaults), which may fail —
    panic — on one call and work on the next (D21: the rollback used to run on the error return only).
    A use that fails while the structs `bs` fail leaves no trace either, so every later call, under
    whatever the user code does then, is the call made in the state before -/
theorem failing_user_code_leaves_no_trace (R R' : List (Option SDesc)) (bs : List Nat) (sid sid' : Nat)
    (st : CacheSt) (h : (useType (failing R bs) sid st).1 = false) :
    useType R' sid' (useType (failing R bs) sid st).2 = useType R' sid' st := by
  rw [useType_fail_unchanged _ sid st h]

/-- … and a use that succeeds while some user code fails is the use it is when nothing fails (it never
    needed a failing struct) -/
theorem succeeding_use_ignores_failing_user_code (R : List (Option SDesc)) (bs : List Nat) (sid : Nat)
    (st : CacheSt) (h : (useType (failing R bs) sid st).1 = true) :
    useType (failing R bs) sid st = useType R sid st := useType_failing_ok R bs sid st h

/-- hence `outcome_independent_of_history` for histories in which **every call comes with its own set of
    structs whose `InitDefault` fails during it**: afterwards a use has the outcome it has in a fresh
    process -/
theorem outcome_independent_of_history_with_failing_user_code (R : List (Option SDesc))
    (hist : List (Nat × List Nat)) (sid : Nat) :
    (useType R sid (useMixed R hist {})).1 = (useType R sid {}).1 := by
  rw [useMixed_eq_useAll]
  exact use_history_independent R _ sid

/-- not vacuous: `Outer{*Inner, *Leaf}` (the shape of D21) while `Leaf` fails -/
example : (useType (failing
    [ some { fields := [{ id := 1, req := .optional, ty := .ptr (.strct 1) },
                        { id := 2, req := .optional, ty := .ptr (.strct 2) }] },
      some { fields := [] }, some { fields := [] } ] [2]) 0 {}).1 = false := by decide

/-- after any history the caches hold only types all of whose dependencies resolve: a descriptor
    met in a cache is a complete one -/
theorem caches_complete (R : List (Option SDesc)) (hist : List Nat) : CInv R (useAll R hist {}) :=
  useAll_inv R hist {} (cinv_empty R)

/-- what the journal is for: without `rollbackBuild` (the tree before the repair of D10) a failed
    use of `A{*B}`, `B{*A, *Bad}` leaves `*A` cached and linked, and a later use of `Sib{*A}` is
    accepted although `Bad`, reachable from it, does not resolve -/
def exR : List (Option SDesc) :=
  [ some { fields := [{ id := 1, req := .optional, ty := .ptr (.strct 1) }] },          -- A{*B}
    some { fields := [{ id := 1, req := .optional, ty := .ptr (.strct 0) },
                      { id := 2, req := .optional, ty := .ptr (.strct 2) }] },          -- B{*A, *Bad}
    none,                                                                                -- Bad
    some { fields := [{ id := 1, req := .optional, ty := .ptr (.strct 0) }] } ]         -- Sib{*A}
theorem noRollback_breaks :
    (useTypeNoRollback exR 0 {}).1 = false ∧
    (useTypeNoRollback exR 3 (useTypeNoRollback exR 0 {}).2).1 = true ∧
    (useType exR 3 (useType exR 0 {}).2).1 = false ∧ (useType exR 3 {}).1 = false := by decide
/-! ### the third process-wide cache: type nodes (`ttypes`, keyed by annotation text and Go type) -/

/-- among annotations of one Go type the text `defs.Type.String()` is a prefix code, so the cache key
    `(x.String(), x.S)` determines the annotation: `set` vs `list`, enum vs `i64`, at any nesting -/
theorem type_node_key_is_faithful (nm : Nat → List Char) (a b : Ty) (h : nodeKey nm a = nodeKey nm b) :
    a = b := nodeKey_injective nm a b h

/-- … hence a lookup returns the node built from its own argument and keeps the cache consistent,
    whatever was looked up before (any history, any order of first use) -/
theorem type_node_independent_of_history (nm : Nat → List Char) (xs : List Ty) (x : Ty) :
    (getNode nm (xs.foldl (fun c y => (getNode nm c y).2) []) x).1 = x :=
  (getNode_correct nm _ x (getNode_history nm xs [] (by intro p hp; cases hp))).1

/-- the key without the text for leaf nodes (the mutation the sub-agents found three times) collides:
    a named int64 as enum and as `i64` share it -/
theorem leafless_key_is_not_faithful (nm : Nat → List Char) :
    nodeKeyLeafless nm (.base .enum) = nodeKeyLeafless nm (.base .i64) ∧ (Ty.base .enum) ≠ (.base .i64) :=
  ⟨rfl, by simp⟩

/-- the code is that cache (regenerated fact: the key type, lookup-before-build and store right after
    allocation in `newTType`, no other use of `ttypes`, and `Type.String()` case by case) -/
theorem type_node_cache_code_is_the_model : Generated.facts.typeNodeCacheKeyed = true :=
  Instances.facts_typeNodeCacheKeyed

/-- no other process-wide state: every store into a package-level variable of `internal/reflect` and
    `internal/defs` outside `init` is one of the descriptor build (modelled above), the type-node cache
    (modelled above) or the caller-less caching resolver — the list of the tree the model was written from
    (the pools are the remaining shared state: `presence_independent_of_pool`, `scratch_cleared`) -/
theorem no_other_process_wide_state :
    Generated.facts.sharedWriteSiteList = Skeleton.sharedWrites := Instances.skeleton_sharedWrites

/-- nothing of an earlier message in the destination of a failing call either: the field loop stores the
    pointee of an optional scalar pointer — memory that comes uncleared from the allocator — into the
    destination only after the value's bytes are known to be there, so it is always written (D26: the
    allocation used to come first, and a truncated message left the field pointing at stale bytes);
    regenerated fact about `Decode`, the `staleProbe` stream looks for the bytes themselves -/
theorem no_unwritten_pointee_published : Generated.facts.pointeeAfterLengthCheck = true :=
  Instances.facts_pointeeAfterLengthCheck

/-- … and what the decoder creates it takes from cleared memory wherever a message can leave part of it
    unwritten: the type nodes that decide typed (zeroed, scanned) versus raw allocation — every struct,
    string, slice, map, pointer and array kind is typed — are, as full text, those of the tree the model was
    written from (`newTType` is part of the descriptor-table fingerprint; R1 left pointer-free structs to the
    uncleared allocator blocks: a sparse message then showed what the memory held before) -/
theorem created_structs_come_from_cleared_memory : Generated.facts.descTableSkeleton = Skeleton.descTable :=
  Instances.skeleton_descTable

end Frugal.C07
