import Frugal.Valid
import Frugal.Generated
namespace Frugal.Instances
open Frugal
theorem valid_bitset : Generated.params.validBitset = true := by decide
end Frugal.Instances
