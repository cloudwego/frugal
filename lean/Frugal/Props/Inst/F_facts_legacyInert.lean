import Frugal.Facts
import Frugal.Generated
namespace Frugal.Instances
open Frugal
theorem facts_legacyInert : Generated.facts.legacyInert = true := by decide
end Frugal.Instances
