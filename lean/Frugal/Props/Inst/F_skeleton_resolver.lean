import Frugal.Facts
import Frugal.Generated
import Frugal.Skeleton
namespace Frugal.Instances
open Frugal
theorem skeleton_resolver : Generated.facts.resolverSkeleton = Skeleton.resolver := rfl
end Frugal.Instances
