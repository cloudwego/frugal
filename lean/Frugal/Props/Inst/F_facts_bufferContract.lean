import Frugal.Facts
import Frugal.Generated
namespace Frugal.Instances
open Frugal
theorem facts_bufferContract : Generated.facts.bufferContract = true := by decide
end Frugal.Instances
