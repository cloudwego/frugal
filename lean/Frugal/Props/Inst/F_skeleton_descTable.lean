import Frugal.Facts
import Frugal.Generated
import Frugal.Skeleton
namespace Frugal.Instances
open Frugal
theorem skeleton_descTable : Generated.facts.descTableSkeleton = Skeleton.descTable := rfl
end Frugal.Instances
