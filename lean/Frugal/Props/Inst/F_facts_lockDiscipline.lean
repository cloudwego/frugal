import Frugal.Facts
import Frugal.Generated
namespace Frugal.Instances
open Frugal
theorem facts_lockDiscipline : Generated.facts.lockDiscipline = true := by decide
end Frugal.Instances
