import Frugal.Valid
import Frugal.Generated
namespace Frugal.Instances
open Frugal
theorem valid_headers : Generated.params.validHeaders = true := by decide
end Frugal.Instances
