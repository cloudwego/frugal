import Frugal.Facts
import Frugal.Generated
import Frugal.Skeleton
namespace Frugal.Instances
open Frugal
theorem skeleton_sharedWrites : Generated.facts.sharedWriteSiteList = Skeleton.sharedWrites := rfl
end Frugal.Instances
