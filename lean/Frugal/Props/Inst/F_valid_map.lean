import Frugal.Proofs.ValidFacts
import Frugal.Generated
namespace Frugal.Instances
open Frugal
theorem valid_map : Generated.params.validMap = true :=
  Params.validMap_of_rows (by decide)
end Frugal.Instances
