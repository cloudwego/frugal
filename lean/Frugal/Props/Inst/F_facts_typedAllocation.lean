import Frugal.Facts
import Frugal.Generated
namespace Frugal.Instances
open Frugal
theorem facts_typedAllocation : Generated.facts.typedAllocation = true := by decide
end Frugal.Instances
