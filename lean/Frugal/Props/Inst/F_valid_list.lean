import Frugal.Valid
import Frugal.Generated
namespace Frugal.Instances
open Frugal
theorem valid_list : Generated.params.validList = true := by decide
end Frugal.Instances
