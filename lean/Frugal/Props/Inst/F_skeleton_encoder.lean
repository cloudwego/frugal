import Frugal.Facts
import Frugal.Generated
import Frugal.Skeleton
namespace Frugal.Instances
open Frugal
theorem skeleton_encoder : Generated.facts.encoderSkeleton = Skeleton.encoder := rfl
end Frugal.Instances
