import Frugal.Valid
import Frugal.Generated
namespace Frugal.Instances
open Frugal
theorem valid_simple : Generated.params.validSimple = true := by decide
end Frugal.Instances
