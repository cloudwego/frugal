import Frugal.Valid
import Frugal.Generated
namespace Frugal.Instances
open Frugal
theorem valid_span : Generated.params.validSpan = true := by decide
end Frugal.Instances
