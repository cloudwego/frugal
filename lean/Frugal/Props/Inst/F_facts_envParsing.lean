import Frugal.Facts
import Frugal.Generated
namespace Frugal.Instances
open Frugal
theorem facts_envParsing : Generated.facts.envParsing = true := by decide
end Frugal.Instances
