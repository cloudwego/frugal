import Frugal.Facts
import Frugal.Generated
namespace Frugal.Instances
open Frugal
theorem facts_typeNodeCacheKeyed : Generated.facts.typeNodeCacheKeyed = true := by decide
end Frugal.Instances
