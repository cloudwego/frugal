import Frugal.Valid
import Frugal.Generated
namespace Frugal.Instances
open Frugal
theorem valid_skip : Generated.params.validSkip = true := by decide
end Frugal.Instances
