import Frugal.Facts
import Frugal.Generated
import Frugal.Skeleton
namespace Frugal.Instances
open Frugal
theorem skeleton_decoder : Generated.facts.decoderSkeleton = Skeleton.decoder := rfl
end Frugal.Instances
