import Frugal.Facts
import Frugal.Generated
namespace Frugal.Instances
open Frugal
theorem facts_steadyStateAllocFree : Generated.facts.steadyStateAllocFree = true := by decide
end Frugal.Instances
