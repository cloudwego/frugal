import Frugal.Facts
import Frugal.Generated
namespace Frugal.Instances
open Frugal
theorem facts_buildProtocol : Generated.facts.buildProtocol = true := by decide
end Frugal.Instances
