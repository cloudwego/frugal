import Frugal.Facts
import Frugal.Generated
namespace Frugal.Instances
open Frugal
theorem facts_decodeNeverWritesInput : Generated.facts.decodeNeverWritesInput = true := by decide
end Frugal.Instances
