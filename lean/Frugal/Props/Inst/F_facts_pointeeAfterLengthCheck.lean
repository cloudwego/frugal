import Frugal.Facts
import Frugal.Generated
namespace Frugal.Instances
open Frugal
theorem facts_pointeeAfterLengthCheck : Generated.facts.pointeeAfterLengthCheck = true := by decide
end Frugal.Instances
