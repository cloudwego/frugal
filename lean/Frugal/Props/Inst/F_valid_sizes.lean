import Frugal.Valid
import Frugal.Generated
namespace Frugal.Instances
open Frugal
theorem valid_sizes : Generated.params.validSizes = true := by decide
end Frugal.Instances
