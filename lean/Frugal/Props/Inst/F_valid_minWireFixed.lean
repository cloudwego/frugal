import Frugal.Valid
import Frugal.Generated
namespace Frugal.Instances
open Frugal
theorem valid_minWireFixed : Generated.params.validMinWireFixed = true := by decide
end Frugal.Instances
