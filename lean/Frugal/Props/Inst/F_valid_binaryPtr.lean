import Frugal.Valid
import Frugal.Generated
namespace Frugal.Instances
open Frugal
theorem valid_binaryPtr : Generated.params.binarySeesThroughPtr = true := by decide
end Frugal.Instances
