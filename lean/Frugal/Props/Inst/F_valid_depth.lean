import Frugal.Valid
import Frugal.Generated
namespace Frugal.Instances
open Frugal
theorem valid_depth : Generated.params.validDepth = true := by decide
end Frugal.Instances
