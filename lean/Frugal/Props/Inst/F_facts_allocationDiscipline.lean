import Frugal.Facts
import Frugal.Generated
namespace Frugal.Instances
open Frugal
theorem facts_allocationDiscipline : Generated.facts.allocationDiscipline = true := by decide
end Frugal.Instances
