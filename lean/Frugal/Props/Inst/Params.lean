/-
  Inst/Params.lean — where the regenerated tables `Generated.params` meet the generic theorems:
  `params_valid`, assembled from the side conditions of `Params.valid`, each decided by the kernel in
  its own module (Inst/F_valid_*.lean) on the tables extracted from /repo's current sources.  The
  regenerated structural facts are decided one per module too (Inst/F_facts_*.lean,
  Inst/F_skeleton_*.lean), so that a property's check depends only on the obligations its theorems use.
-/
import Frugal.Valid
import Frugal.Generated
import Frugal.Props.Inst.F_valid_sizes
import Frugal.Props.Inst.F_valid_simple
import Frugal.Props.Inst.F_valid_container
import Frugal.Props.Inst.F_valid_headers
import Frugal.Props.Inst.F_valid_list
import Frugal.Props.Inst.F_valid_map
import Frugal.Props.Inst.F_valid_minWire
import Frugal.Props.Inst.F_valid_minWireFixed
import Frugal.Props.Inst.F_valid_skip
import Frugal.Props.Inst.F_valid_depth
import Frugal.Props.Inst.F_valid_bitset
import Frugal.Props.Inst.F_valid_span
import Frugal.Props.Inst.F_valid_binaryGuard
import Frugal.Props.Inst.F_valid_binaryPtr
namespace Frugal.Instances
open Frugal

theorem params_valid : Generated.params.valid = true := by
  simp only [Params.valid, valid_sizes, valid_simple, valid_container, valid_headers, valid_list,
    valid_map, valid_minWire, valid_minWireFixed, valid_skip, valid_depth, valid_bitset, valid_span,
    valid_binaryGuard, valid_binaryPtr, Bool.and_self]

end Frugal.Instances
