import Frugal.Valid
import Frugal.Generated
namespace Frugal.Instances
open Frugal
theorem valid_minWire : Generated.params.validMinWire = true := by decide
end Frugal.Instances
