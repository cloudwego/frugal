import Frugal.Facts
import Frugal.Generated
import Frugal.Skeleton
namespace Frugal.Instances
open Frugal
theorem skeleton_residualReflect : Generated.facts.residualReflectSkeleton = Skeleton.residualReflect := rfl
end Frugal.Instances
