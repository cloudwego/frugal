import Frugal.Facts
import Frugal.Generated
namespace Frugal.Instances
open Frugal
theorem facts_rollback : Generated.facts.rollbackOnFailedBuild = true := by decide
end Frugal.Instances
