import Frugal.Valid
import Frugal.Generated
namespace Frugal.Instances
open Frugal
theorem valid_container : Generated.params.validContainer = true := by decide
end Frugal.Instances
