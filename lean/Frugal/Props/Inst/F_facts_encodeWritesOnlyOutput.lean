import Frugal.Facts
import Frugal.Generated
namespace Frugal.Instances
open Frugal
theorem facts_encodeWritesOnlyOutput : Generated.facts.encodeWritesOnlyOutput = true := by decide
end Frugal.Instances
