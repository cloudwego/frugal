import Frugal.Facts
import Frugal.Generated
namespace Frugal.Instances
open Frugal
theorem facts_descriptorsReadOnly : Generated.facts.descriptorsReadOnly = true := by decide
end Frugal.Instances
