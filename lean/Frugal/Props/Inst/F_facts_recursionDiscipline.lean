import Frugal.Facts
import Frugal.Generated
namespace Frugal.Instances
open Frugal
theorem facts_recursionDiscipline : Generated.facts.recursionDiscipline = true := by decide
end Frugal.Instances
