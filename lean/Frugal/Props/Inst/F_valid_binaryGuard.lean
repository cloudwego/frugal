import Frugal.Valid
import Frugal.Generated
namespace Frugal.Instances
open Frugal
theorem valid_binaryGuard : Generated.params.mapBinaryGuard = true := by decide
end Frugal.Instances
