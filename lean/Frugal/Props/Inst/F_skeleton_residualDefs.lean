import Frugal.Facts
import Frugal.Generated
import Frugal.Skeleton
namespace Frugal.Instances
open Frugal
theorem skeleton_residualDefs : Generated.facts.residualDefsSkeleton = Skeleton.residualDefs := rfl
end Frugal.Instances
