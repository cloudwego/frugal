import Frugal.Facts
import Frugal.Generated
namespace Frugal.Instances
open Frugal
theorem facts_unknownIndexProtocol : Generated.facts.unknownIndexProtocol = true := by decide
end Frugal.Instances
