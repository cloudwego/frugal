/- Property C02: the property theorems (and nothing else). -/
import Frugal.Proofs.EncodeRefine
import Frugal.Proofs.ToWire
import Frugal.Proofs.Strict
import Frugal.Proofs.BufferLemmas
import Frugal.Props.Inst.Params
import Frugal.Props.Inst.F_skeleton_encoder
import Frugal.Props.Inst.F_valid_binaryGuard
import Frugal.Props.Inst.F_valid_list
import Frugal.Props.Inst.F_valid_map
import Frugal.Props.Inst.F_skeleton_descTable
import Frugal.Props.Inst.F_skeleton_residualReflect
namespace Frugal.C02
open Frugal

/-- every regenerated dispatch table entry (11 list routines, 144 map registrations, the two
    fall-backs, the binary guard) writes what the element / key / value type requires and, for the
    typed-range routines, casts the map to a type of the same layout. -/
theorem tables_sound : Generated.params.validList = true ∧ Generated.params.validMap = true ∧
    Generated.params.mapBinaryGuard = true :=
  ⟨Instances.valid_list, Instances.valid_map, Instances.valid_binaryGuard⟩

/-- For every schema the tag language accepts and every value: the bytes the encoder (as written,
    through its fast-path tables) produces are exactly the independent reference encoder's bytes. -/
theorem encoder_refines_reference (S : Schema) (hS : S.ok = true) (ty : Ty) (v : Val)
    (hok : ty.ok = true) (ht : hasTy S ty v = true) :
    appendAny Generated.params S ty v = refEnc S ty v :=
  appendAny_eq Instances.params_valid S hS v ty hok ht

/-- ... and those bytes are the Thrift Binary serialisation of the value's denotation under the
    schema (each written field once, with its declared id and wire type; enum as i32, binary as
    string, set as SET, list as LIST; counts = number of elements; STOP after every struct) -/
theorem reference_is_wire_encoding (S : Schema) (hS : S.ok = true) (ty : Ty) (v : Val) (hok : ty.ok = true)
    (hnil : nilOK ty v = true) (ht : hasTy S ty v = true) (hn : noHolder v = true) :
    refEnc S ty v = ser (toWire S ty v) :=
  refEnc_eq_ser S hS v ty hok hnil ht hn

/-- the two together, as the caller sees them: after `EncodeObject` into any sufficient buffer, `buf[:n]`
    is the Thrift Binary serialisation of the value's denotation (buffer model: C04 / C16) -/
theorem buffer_holds_the_wire_encoding (S : Schema) (hS : S.ok = true) (sid : Nat) (v : Val)
    (hnil : nilOK (.strct sid) v = true) (ht : hasTy S (.strct sid) v = true) (hn : noHolder v = true)
    (back : Bytes) (len : Nat) (chunks : List Bytes)
    (hch : chunks.flatten = appendM Generated.params S sid v) (hfit : chunks.flatten.length ≤ len) :
    (encodeObjectM back len chunks).2.2.take (encodeObjectM back len chunks).1
      = ser (toWire S (.strct sid) v) := by
  rw [encodeObject_fits back len chunks hfit,
    List.take_left' rfl,
    hch,
    appendM,
    encoder_refines_reference S hS (.strct sid) v rfl ht,
    reference_is_wire_encoding S hS (.strct sid) v rfl hnil ht hn]

/-- the denotation is a well-formed Thrift value of the declared wire type -/
theorem denotation_well_formed (S : Schema) (hS : S.ok = true) (ty : Ty) (v : Val) (hok : ty.ok = true)
    (hnil : nilOK ty v = true) (ht : hasTy S ty v = true) (hf : sizesFit v = true) :
    wf (toWire S ty v) = true ∧ (toWire S ty v).tag = ty.wire :=
  ⟨toWire_wf S hS v ty hok hnil ht hf, toWire_tag S v ty hnil ht⟩

/-- the same for values that carry retained unknown-field bytes (holders), at any nesting level:
    when every holder is the serialisation of a list of well-formed fields (`fitH`, which also bounds
    strings and containers by int32; every decoded value is such a value, C11), the encoder as written
    produces the serialisation of the denotation `toWireH` — `toWire` with, in every struct, the fields
    its holder serialises listed after the struct's own — and that denotation is a well-formed Thrift
    value of the declared wire type.  `toWireH` coincides with `toWire` on values without holders. -/
theorem encoding_with_retained_fields (S : Schema) (hS : S.ok = true) (ty : Ty) (v : Val) (hok : ty.ok = true)
    (hnil : nilOK ty v = true) (ht : hasTy S ty v = true) (hf : fitH v = true) :
    appendAny Generated.params S ty v = ser (toWireH S ty v) ∧ wf (toWireH S ty v) = true ∧
      (toWireH S ty v).tag = ty.wire :=
  ⟨by rw [appendAny_eq Instances.params_valid S hS v ty hok ht]
      exact refEnc_eq_serH S hS v ty hok hnil ht (fitH_holdersOK v hf),
   toWireH_wf S hS v ty hok hnil ht hf, toWireH_tag S v ty hnil ht⟩

theorem retained_denotation_extends (S : Schema) (ty : Ty) (v : Val) (hn : noHolder v = true) :
    toWireH S ty v = toWire S ty v :=
  toWireH_of_noHolder S v ty hn

/-- … and strictly so: every element / key / value code it carries is a protocol type code, empty
    containers included (`wf` itself only asks for a non-negative int8 there, see Wire.lean) -/
theorem codes_are_protocol_codes (S : Schema) (ty : Ty) (v : Val) : codesStrict (toWire S ty v) = true :=
  toWire_codesStrict S v ty

/-- each field that must be present appears exactly once: the message's ids are a sublist of the field
    table's ids (in table order: ascending id, C12.field_table) and pairwise distinct -/
theorem fields_appear_once (S : Schema) (sd : SDesc) (fs : List Field) (xs : List Val)
    (h : fs.Pairwise (fun a b => a.id ≠ b.id)) :
    ((toWireFields S sd fs xs).map (·.1)).Sublist (fs.map (·.id)) ∧
    ((toWireFields S sd fs xs).map (·.1)).Pairwise (· ≠ ·) :=
  ⟨toWireFields_ids_sublist S sd fs xs,
   (List.pairwise_map.2 h).sublist (toWireFields_ids_sublist S sd fs xs)⟩

/-- nil non-optional containers are written empty and a nil non-optional struct as an empty struct -/
theorem nil_written_empty (S : Schema) (s : Bool) (e k v : Ty) (sid : Nat) :
    toWire S (.list s e) (.lst true []) = (if s then .set e.wire [] else .list e.wire []) ∧
    toWire S (.map k v) (.mp true []) = .map k.wire v.wire [] ∧
    toWire S (.ptr (.strct sid)) .nilp = .strct [] :=
  ⟨by cases s <;> rfl, rfl, rfl⟩

/-- the reference parser inverts `ser`: equal bytes denote equal Thrift values, and an independent
    parser reads the output back to the same value -/
theorem ser_denotes (v w : TVal) (hv : wf v = true) (hw : wf w = true) (ht : v.tag = w.tag)
    (e : ser v = ser w) : v = w := ser_injective v w hv hw ht e

/-- non-vacuity: a concrete schema and value satisfy the hypotheses -/
example : let S : Schema := [{ fields := [{ id := 1, req := .dflt, ty := .list false (.base .i32) }] }]
    S.ok = true ∧ hasTy S (.strct 0) (.st [.lst false [.sc 7, .sc 8]] []) = true := by decide
/-- the hand-written model of the encoder and size functions (`appendStruct`, `appendAny`, `EncodedSize`, `encodedMapSize`, `encodedListSize`, the two header writers, `Append`, `EncodedSize`) was written from, and validated against, code with exactly this
    control structure (guards, switches, loops, returns, call sequence): regenerated fingerprint =
    committed fingerprint of the unchanged tree -/
theorem model_written_from_this_code : Generated.facts.encoderSkeleton = Skeleton.encoder := Instances.skeleton_encoder
/-- the schema the theorems quantify over reaches the codec through the descriptor tables (field index
    by id, required ids, offsets, per-field flags and fixed sizes, the type node's tag / size / alignment /
    element nodes): the declarations `structDesc`, `tField`, `tType` and the functions that fill them in
    (`fromDefsFields`, `fromDefsField`, `GetField`, `newTType`) are, as full text, those the model and the
    correspondence runs were validated against (regenerated fingerprint) -/
theorem descriptor_tables_built_as_modelled : Generated.facts.descTableSkeleton = Skeleton.descTable :=
  Instances.skeleton_descTable

/-- the rest of `internal/reflect` — every function and package-level declaration that neither a fingerprint, a table translation nor a protocol fact covers (the entry points' argument handling, the runtime-layout helpers of `hack.go`, `span`, `bitset`, the exception constructors, the pools, `utils.go`) — is, as full text, that of the tree the model was written from -/
theorem rest_of_codec_package_as_modelled : Generated.facts.residualReflectSkeleton = Skeleton.residualReflect := Instances.skeleton_residualReflect

end Frugal.C02
