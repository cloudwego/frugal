/- Property C11: the property theorems (and nothing else). -/
import Frugal.Proofs.SizeExact
import Frugal.Proofs.ReaderProps
import Frugal.Proofs.HoldersRead
import Frugal.Proofs.KnownOnly
import Frugal.Proofs.EraseTail
import Frugal.Proofs.ReadTyped
import Frugal.Proofs.ReadUnk
import Frugal.Proofs.RoundTrip
import Frugal.Props.Inst.F_valid_depth
import Frugal.Proofs.UnknownIdxLemmas
import Frugal.Proofs.DecodeRefine
import Frugal.Props.Inst.Params
import Frugal.Props.Inst.F_facts_unknownIndexProtocol
import Frugal.Props.Inst.F_skeleton_decoder
import Frugal.Props.Inst.F_skeleton_encoder
import Frugal.Props.Inst.F_skeleton_descTable
import Frugal.Props.Inst.F_skeleton_resolver
import Frugal.Tags
namespace Frugal.C11
open Frugal
/-- retained unknown-field bytes are re-emitted verbatim inside their struct, before STOP -/
theorem holder_reemitted (S : Schema) (sid : Nat) (fs : List Val) (h : Bytes) :
    refEnc S (.strct sid) (.st fs h) = refEncFields S (S.get sid) (S.get sid).fields fs ++ h ++ [0] := by
  simp [refEnc]

/-- decoding stores in the holder exactly the bytes of the unrecognised fields (unknown id, or known
    id with another wire type), byte for byte and in message order -/
theorem holder_is_unknown_bytes (S : Schema) (total fuel : Nat) (sd : SDesc) (fs : List (Nat × TVal))
    (tail : Nat) (vs : List Val) (st' : LoopSt) (hh : sd.hasHolder = true)
    (h : readFields Generated.params S total fuel sd fs tail { fs := vs } = .ok st') :
    st'.unk = unknownBytes sd fs :=
  holder_content _ S total fuel sd fs tail vs st' hh h

/-- … and those bytes are the serialisation of the unrecognised fields themselves: a field of the
    message is kept exactly when the schema does not recognise it (unknown id, or known id with another
    wire type), unchanged, and in message order -/
theorem holder_is_serialisation (sd : SDesc) (fs : List (Nat × TVal)) :
    unknownBytes sd fs = serFields (unknownOnly sd fs) ∧
    (unknownOnly sd fs).Sublist fs ∧
    ∀ id v, (id, v) ∈ unknownOnly sd fs ↔ ((id, v) ∈ fs ∧ (lookupKnown sd id v.tag).isNone = true) :=
  ⟨unknownBytes_eq_ser sd fs, unknownOnly_sublist sd fs, fun id v => mem_unknownOnly sd id v fs⟩

/-- second hop: what the intermediary writes for a struct whose holder was filled from the message
    `fs` is the serialisation of a struct carrying the recognised fields as its own schema writes them
    followed by every unrecognised field of `fs`, unchanged and in message order — so a reader with
    the newer schema (C03: any reader of these bytes is the reference reader on this field list)
    sees them all.  `noHolderList`: the field values themselves carry no retained bytes; a nested
    struct with retained bytes re-emits them by the same theorem one level down (`holder_reemitted`). -/
theorem second_hop_keeps_unknown (S : Schema) (hS : S.ok = true) (sid : Nat) (vs : List Val)
    (fs : List (Nat × TVal)) (ht : hasTyFields S (S.get sid).fields vs = true) (hn : noHolderList vs = true) :
    refEnc S (.strct sid) (.st vs (unknownBytes (S.get sid) fs)) =
      ser (.strct (toWireFields S (S.get sid) (S.get sid).fields vs ++ unknownOnly (S.get sid) fs)) :=
  reencode_known_then_unknown S hS sid vs fs ht hn

/-- **every nesting level.**  Whatever well-formed message `DecodeObject` accepts (unknown fields of
    every type anywhere, any order, duplicates, trailing bytes), in the value it returns every holder —
    of the top-level struct, of struct fields, of list / set elements, of map keys and values, at any
    depth — is the serialisation of a list of well-formed fields (`fitH`, Proofs/Holders.lean; also:
    every string and container within int32), provided the destination's own holders were.  `hdf`:
    declared defaults are such values (they are scalars and strings). -/
theorem decoded_holders_are_field_lists (S : Schema) (hS : S.ok = true)
    (hdf : ∀ sid, ∀ f ∈ (S.get sid).fields, ∀ d, f.dflt = some d → fitH d = true)
    (sid : Nat) (fs : List (Nat × TVal)) (trailing : Bytes) (dest w : Val) (n : Nat)
    (hw : wfFields fs = true) (hdest : fitH dest = true)
    (h : decodeM Generated.params S sid (ser (.strct fs) ++ trailing) dest = .ok (w, n)) :
    fitH w = true :=
  readMessage_fitH Generated.params S hdf sid fs trailing.length dest _ hw hdest
    (decodeM_accepted Instances.params_valid S hS sid fs trailing dest hw h).1

/-- … consequently (C02 for values with retained bytes) re-encoding any such value, when it is a
    typed value of the schema, writes a well-formed Thrift message: the serialisation of its
    denotation `toWireH`, in which every struct lists, after its recognised fields, the fields its
    holder serialises -/
theorem reencoding_is_wellformed (S : Schema) (hS : S.ok = true) (sid : Nat) (w : Val)
    (ht : hasTy S (.strct sid) w = true) (hf : fitH w = true) :
    refEncStruct S sid w = ser (toWireH S (.strct sid) w) ∧ wf (toWireH S (.strct sid) w) = true :=
  ⟨refEnc_eq_serH S hS w (.strct sid) rfl rfl ht (fitH_holdersOK w hf),
   toWireH_wf S hS w (.strct sid) rfl rfl ht hf⟩

/-- … where, for a struct whose holder was filled from the message `fs`, those are exactly the
    unrecognised fields of `fs`, unchanged and in message order -/
theorem denotation_lists_unknown (S : Schema) (sid : Nat) (vs : List Val) (fs : List (Nat × TVal))
    (hw : wfFields fs = true) :
    toWireH S (.strct sid) (.st vs (unknownBytes (S.get sid) fs)) =
      .strct (toWireFieldsH S (S.get sid) (S.get sid).fields vs ++ unknownOnly (S.get sid) fs) := by
  simp only [toWireH, holderFields_unknownBytes _ fs hw]

/-- **an intermediary with an older schema loses nothing.**  For every schema without `nocopy` fields
    satisfying the side conditions of C01 (`S.rtSide`), every well-formed message, any trailing
    bytes, and every typed destination whose holders are field lists: if `DecodeObject` accepts the
    message then the value it returns is a typed value of the struct (`hasTy`, type soundness of the
    decoder: Proofs/ReadTyped.lean) all of whose holders are field lists, so `EncodeObject` applied to
    it writes the serialisation of a well-formed Thrift struct — its denotation `toWireH`, in which
    every struct at every nesting level carries, after the fields its own schema writes, the fields
    its holder retained (`denotation_lists_unknown`: the unrecognised fields of the message that
    struct was read from, unchanged and in message order). -/
theorem intermediary_loses_nothing (S : Schema) (hS : S.ok = true) (hside : S.rtSide)
    (hdf : ∀ sid, ∀ f ∈ (S.get sid).fields, ∀ d, f.dflt = some d → fitH d = true)
    (sid : Nat) (fs : List (Nat × TVal)) (trailing : Bytes) (dest w : Val) (n : Nat)
    (hw : wfFields fs = true)
    (hdt : hasTy S (.strct sid) dest = true) (hdh : fitH dest = true)
    (h : decodeM Generated.params S sid (ser (.strct fs) ++ trailing) dest = .ok (w, n)) :
    hasTy S (.strct sid) w = true ∧ fitH w = true ∧
    appendM Generated.params S sid w = ser (toWireH S (.strct sid) w) ∧
    wf (toWireH S (.strct sid) w) = true := by
  have hfit := decoded_holders_are_field_lists S hS hdf sid fs trailing dest w n hw hdh h
  have h0 := (decodeM_accepted Instances.params_valid S hS sid fs trailing dest hw h).1
  have hty := readMessage_typed Generated.params S hS hside sid fs trailing.length dest _ hw hdt h0
  obtain ⟨e, hwf⟩ := reencoding_is_wellformed S hS sid w hty hfit
  exact ⟨hty, hfit, (appendAny_eq Instances.params_valid S hS _ (.strct sid) rfl hty).trans e, hwf⟩

/-- **… and what it forwards reads back as what it held** (the second hop, at every nesting level): for
    the value `w` an intermediary decoded (hypotheses of `intermediary_loses_nothing`, the destination's
    own holders skippable unknown fields, e.g. a fresh struct), re-encoding `w` and decoding the bytes
    with the same schema into any typed destination succeeds, consumes exactly the encoded length and
    gives `normTopH w dest`: the recognised fields in normal form and, in every struct of `w` at every
    nesting level, the retained bytes **byte for byte**.  The holders of a decoded value meet the
    hypotheses of `C01.roundtrip_with_nested_holders` by themselves (`fitH`: HoldersRead, `unkOK`:
    ReadUnk); what remains is C01's own: nesting ≤ 511 and no written nil pointer to a struct with
    required fields. -/
theorem forwarded_value_reads_back (S : Schema) (hS : S.ok = true) (hside : S.rtSide)
    (hdf : ∀ sid, ∀ f ∈ (S.get sid).fields, ∀ d, f.dflt = some d → fitH d = true)
    (hdu : ∀ sid, ∀ f ∈ (S.get sid).fields, ∀ d, f.dflt = some d → unkOK Generated.params S f.ty d = true)
    (sid : Nat) (fs : List (Nat × TVal)) (trailing : Bytes) (dest w : Val) (n : Nat)
    (hw : wfFields fs = true)
    (hdt : hasTy S (.strct sid) dest = true) (hdh : fitH dest = true)
    (hdk : unkOK Generated.params S (.strct sid) dest = true)
    (h : decodeM Generated.params S sid (ser (.strct fs) ++ trailing) dest = .ok (w, n))
    (hr : rtOK S (.strct sid) w = true) (hd : depth (toWireH S (.strct sid) w) ≤ 511)
    (ds : List Val) (h' : Bytes) (hdest : hasTy S (.strct sid) (.st ds h') = true) :
    decodeM Generated.params S sid (appendM Generated.params S sid w) (.st ds h') =
      .ok (normTopH S sid w (.st ds h'), (appendM Generated.params S sid w).length) := by
  have hfit := decoded_holders_are_field_lists S hS hdf sid fs trailing dest w n hw hdh h
  have h0 := (decodeM_accepted Instances.params_valid S hS sid fs trailing dest hw h).1
  have hty := readMessage_typed Generated.params S hS hside sid fs trailing.length dest _ hw hdt h0
  have hunk := readMessage_unkOK Generated.params S hdu sid fs trailing.length dest _ hw hdk h0
  cases w with
  | st xs hh =>
    apply roundtrip_holders Instances.params_valid S hS hside sid xs ds hh h' hty hdest hfit hunk hr
    have : Generated.params.maxDepth = 1023 := rfl
    omega
  | _ => hasTy_absurd hty

/-- the recognised fields are decoded as if the unknown ones were not there: whenever a message is
    read successfully, the same message without its unrecognised fields — wherever it sits in a
    buffer, whatever the provenance of the destination's strings — is read successfully to the same
    field values and the same presence record, with or without the holder.  "The same" up to the
    buffer offsets that `nocopy` views record (`eraseList` forgets them: the two messages are different
    byte strings, so a view's offset differs while its bytes do not); `hdf`: declared defaults are not
    views (as in C14). -/
theorem recognised_as_if_alone (S : Schema) (total total' fuel : Nat) (sd : SDesc)
    (hdf : ∀ sid, ∀ f ∈ (S.get sid).fields, ∀ d, f.dflt = some d → plain d = true)
    (fs : List (Nat × TVal)) (tail tail' : Nat) (vs vs' : List Val) (st' : LoopSt)
    (hd : eraseList vs = eraseList vs')
    (h : readFields Generated.params S total fuel sd fs tail { fs := vs } = .ok st') :
    ∃ st'', readFields Generated.params S total' fuel sd (knownOnly sd fs) tail' { fs := vs' } = .ok st'' ∧
      eraseList st''.fs = eraseList st'.fs ∧ st''.seen = st'.seen ∧ st''.unk = [] := by
  simpa only [eraseList_eq_map] using (FieldG.erase _ S fuel sd hdf).readFields_knownOnly total total' fs tail tail'
    { fs := vs } { fs := vs' } st' (by simpa only [eraseList_eq_map] using hd) rfl h

/-- … and exactly the same values when the schema has no `nocopy` field -/
theorem recognised_as_if_alone_exact (S : Schema) (total total' fuel : Nat) (sd : SDesc)
    (hS : ∀ sid, ∀ f ∈ (S.get sid).fields, f.nocopy = false) (hsd : ∀ g ∈ sd.fields, g.nocopy = false)
    (fs : List (Nat × TVal)) (tail tail' : Nat) (vs : List Val) (st' : LoopSt)
    (h : readFields Generated.params S total fuel sd fs tail { fs := vs } = .ok st') :
    ∃ st'', readFields Generated.params S total' fuel sd (knownOnly sd fs) tail' { fs := vs } = .ok st'' ∧
      st''.fs = st'.fs ∧ st''.seen = st'.seen ∧ st''.unk = [] := by
  simpa only [List.map_id] using (FieldG.exact _ S fuel sd hS hsd).readFields_knownOnly total total' fs tail tail'
    { fs := vs } { fs := vs } st' rfl rfl h

/-- the message without its unrecognised fields: the recognised ones, unchanged and in order -/
theorem knownOnly_is (sd : SDesc) (fs : List (Nat × TVal)) : (knownOnly sd fs).Sublist fs :=
  knownOnly_sublist sd fs

/-- types without the holder drop them -/
theorem no_holder_drops (S : Schema) (total fuel : Nat) (sd : SDesc) (fs : List (Nat × TVal))
    (tail : Nat) (vs : List Val) (st' : LoopSt) (hh : sd.hasHolder = false)
    (h : readFields Generated.params S total fuel sd fs tail { fs := vs } = .ok st') : st'.unk = [] :=
  no_holder_drop _ S total fuel sd fs tail vs st' hh h

/-- EncodedSize counts the retained bytes: the size walk equals the bytes written, holder included -/
theorem size_counts_holder (S : Schema) (hS : S.ok = true) (sid : Nat) (v : Val)
    (ht : hasTy S (.strct sid) v = true) :
    sizeM Generated.params S sid v = (refEncStruct S sid v).length :=
  sizeFunc_eq Instances.params_valid S hS v (.strct sid) rfl ht rfl
/-! ### the (offset, size) index of unknownfields.go

The decoder does not append skipped bytes as the byte-level model does: it records
`(i - fieldHeaderLen, n + fieldHeaderLen)` and copies the ranges out of the struct's input slice after
STOP into a buffer of `sz` uninitialised bytes (UnknownIdx.lean).  The two agree: -/

/-- the code is that index (regenerated fact: `Add`, `Reset`, `Size`, `Copy` and the three call sites
    in `Decode`, statement by statement; `fieldHeaderLen = 3`) -/
theorem index_code_is_the_model : Generated.facts.unknownIndexProtocol = true :=
  Instances.facts_unknownIndexProtocol

/-- one skipped field: the extent recorded for it — header position, value length + 3 — is inside the
    input and is exactly the bytes the byte-level model appends (type byte, the two id bytes, the `n`
    skipped bytes), and the index invariant (ranges in bounds, `sz` = bytes covered) is kept -/
theorem index_step_agrees (p : UF) (b unk : Bytes) (i0 n : Nat) (tp : UInt8) (r r1 : Bytes) (fid : Nat)
    (hp : p.Inv b) (hu : p.copied b = unk) (hb : b.drop i0 = tp :: r) (hid : rd16 r = some (fid, r1))
    (hn : n ≤ r1.length) :
    (p.add i0 (n + 3)).Inv b ∧ (p.add i0 (n + 3)).copied b = unk ++ tp :: (r.take 2 ++ r1.take n) :=
  step_agrees p b unk i0 n tp r r1 fid hp hu hb hid hn

/-- any history of recorded extents from `Reset`: `Copy` succeeds — no range leaves the input, every
    byte of its uninitialised buffer is written — and returns the recorded slices in order -/
theorem index_copy_is_concatenation (b : Bytes) (es : List (Nat × Nat))
    (h : ∀ e ∈ es, e.1 + e.2 ≤ b.length) :
    (es.foldl (fun u e => u.add e.1 e.2) UF.reset).copy b = some (es.flatMap fun e => slice b e.1 e.2) := by
  obtain ⟨hinv, hcopied⟩ := UF.history b es UF.reset (UF.inv_reset b) h
  rw [UF.copy_of_inv _ b hinv, hcopied]
  simp [UF.copied, UF.reset]

/-- the theorems above that speak of `decodeM` / the reference reader are about the hand-written model
    of `Decode` / `decodeType` / `decodeStringNoCopy` / `decodeFixedSizeTypes` / `skipUnknown`
    (Decode.lean), written from exactly this control structure of the code (regenerated fingerprint) -/
theorem decoder_model_written_from_this_code : Generated.facts.decoderSkeleton = Skeleton.decoder :=
  Instances.skeleton_decoder

/-- … and those that speak of `appendM` / `sizeM` about the hand-written model of `appendStruct` /
    `appendAny` / the size walk / the entry points (Encode.lean), written from exactly this control
    structure of the code (regenerated fingerprint; the fast-path tables are regenerated themselves) -/
theorem encoder_model_written_from_this_code : Generated.facts.encoderSkeleton = Skeleton.encoder :=
  Instances.skeleton_encoder

/-- the schema the theorems quantify over reaches the codec through the descriptor tables (field index
    by id, required ids, offsets, per-field flags and fixed sizes, the type node's tag / size / alignment /
    element nodes): the declarations `structDesc`, `tField`, `tType` and the functions that fill them in
    (`fromDefsFields`, `fromDefsField`, `GetField`, `newTType`) are, as full text, those the model and the
    correspondence runs were validated against (regenerated fingerprint) -/
theorem descriptor_tables_built_as_modelled : Generated.facts.descTableSkeleton = Skeleton.descTable :=
  Instances.skeleton_descTable

/-- what a field is *declared* to be — required / optional, `nocopy`, the holder — is read from the
    struct tags by the resolver (`DoResolveFields`, `lookupStructTag`, the annotation parser,
    `newStructDesc`, `fromDefsField`): the model of it (Tags.lean) was written from exactly this control
    structure of the code (regenerated fingerprint; C12 / C13 prove what the model does) -/
theorem schema_read_from_tags_as_modelled : Generated.facts.resolverSkeleton = Skeleton.resolver :=
  Instances.skeleton_resolver

/-- holder discovery: a struct has the holder exactly when one of *its own* fields is named
    `_unknownFields` and has type `[]byte`; an embedded struct that declares one does not give its
    holder to the struct embedding it (D14: the code used to look among promoted fields too, at the
    wrong offset), nor does a field of that name with another type -/
theorem holder_is_an_own_field (gs : GoStruct) (sd : SDesc) (h : resolveStruct gs = some sd) :
    sd.hasHolder = gs.fields.any fun gf => gf.name == "_unknownFields" &&
      (match gf.ty with
       | .slice (.prim .uint8 _) => true
       | _ => false) := by
  unfold resolveStruct at h
  split at h
  · cases h
  · cases h; rfl

end Frugal.C11
