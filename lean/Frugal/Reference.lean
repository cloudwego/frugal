/-
  Reference.lean — the `Params` of the unchanged tree, committed (tools/mkreference.py).  Used only by
  the driver's `--ref` mode to look for concrete failing inputs after a regenerated table has stopped
  satisfying `Params.valid`; no theorem about /repo depends on it.
-/
import Frugal.Proofs.ValidFacts
namespace Frugal.Reference
open Frugal

def params : Params := {
  typeToSize := [(.bool, 1), (.byte, 1), (.double, 8), (.i16, 2), (.i32, 4), (.i64, 8), (.enum, 4)]
  simpleTypes := [.bool, .byte, .double, .i16, .i32, .i64, .enum, .string]
  containerTypes := [.map, .list, .set]
  fieldHeaderLen := 3
  mapHeaderLen := 6
  listHeaderLen := 5
  strHeaderLen := 4
  maxDepth := 1023
  minWire := [(2, 1), (3, 1), (6, 2), (8, 4), (10, 8), (4, 8), (11, 4), (12, 1), (13, 6), (14, 5), (15, 5)]
  skipDepth := 64
  skipFixed := [(2, 1), (3, 1), (4, 8), (6, 2), (8, 4), (10, 8)]
  skipRecovers := true
  blockSize := 2048
  directDiv := 8
  bsWords := 1024
  bsShift := 6
  bsMask := 63
  listTable := [
    (.byte, .byte),
    (.i16, .u16),
    (.i32, .u32),
    (.i64, .u64),
    (.double, .u64),
    (.enum, .enum32),
    (.string, .str),
    (.strct, .dispatch),
    (.map, .dispatch),
    (.set, .dispatch),
    (.list, .dispatch)]
  listDefault := .any
  mapTable := [
    ((.bool, .bool), ⟨.bool, .bool, .boolNorm, .boolNorm⟩),
    ((.bool, .byte), ⟨.bool, .u8, .boolNorm, .byte⟩),
    ((.bool, .i16), ⟨.bool, .u16, .boolNorm, .u16⟩),
    ((.bool, .i32), ⟨.bool, .u32, .boolNorm, .u32⟩),
    ((.bool, .i64), ⟨.bool, .u64, .boolNorm, .u64⟩),
    ((.bool, .double), ⟨.bool, .u64, .boolNorm, .u64⟩),
    ((.bool, .enum), ⟨.bool, .i64, .boolNorm, .enum32⟩),
    ((.bool, .string), ⟨.bool, .str, .boolNorm, .str⟩),
    ((.bool, .strct), ⟨.iter, .iter, .byte, .dispatch⟩),
    ((.bool, .map), ⟨.iter, .iter, .byte, .dispatch⟩),
    ((.bool, .set), ⟨.iter, .iter, .byte, .dispatch⟩),
    ((.bool, .list), ⟨.iter, .iter, .byte, .dispatch⟩),
    ((.byte, .byte), ⟨.u8, .u8, .byte, .byte⟩),
    ((.byte, .bool), ⟨.u8, .bool, .byte, .boolNorm⟩),
    ((.byte, .i16), ⟨.u8, .u16, .byte, .u16⟩),
    ((.byte, .i32), ⟨.u8, .u32, .byte, .u32⟩),
    ((.byte, .i64), ⟨.u8, .u64, .byte, .u64⟩),
    ((.byte, .double), ⟨.u8, .u64, .byte, .u64⟩),
    ((.byte, .enum), ⟨.u8, .i64, .byte, .enum32⟩),
    ((.byte, .string), ⟨.u8, .str, .byte, .str⟩),
    ((.byte, .strct), ⟨.iter, .iter, .byte, .dispatch⟩),
    ((.byte, .map), ⟨.iter, .iter, .byte, .dispatch⟩),
    ((.byte, .set), ⟨.iter, .iter, .byte, .dispatch⟩),
    ((.byte, .list), ⟨.iter, .iter, .byte, .dispatch⟩),
    ((.i16, .bool), ⟨.u16, .bool, .u16, .boolNorm⟩),
    ((.i16, .byte), ⟨.u16, .u8, .u16, .byte⟩),
    ((.i16, .i16), ⟨.u16, .u16, .u16, .u16⟩),
    ((.i16, .i32), ⟨.u16, .u32, .u16, .u32⟩),
    ((.i16, .i64), ⟨.u16, .u64, .u16, .u64⟩),
    ((.i16, .double), ⟨.u16, .u64, .u16, .u64⟩),
    ((.i16, .enum), ⟨.u16, .i64, .u16, .enum32⟩),
    ((.i16, .string), ⟨.u16, .str, .u16, .str⟩),
    ((.i16, .strct), ⟨.iter, .iter, .u16, .dispatch⟩),
    ((.i16, .map), ⟨.iter, .iter, .u16, .dispatch⟩),
    ((.i16, .set), ⟨.iter, .iter, .u16, .dispatch⟩),
    ((.i16, .list), ⟨.iter, .iter, .u16, .dispatch⟩),
    ((.i32, .bool), ⟨.u32, .bool, .u32, .boolNorm⟩),
    ((.i32, .byte), ⟨.u32, .u8, .u32, .byte⟩),
    ((.i32, .i16), ⟨.u32, .u16, .u32, .u16⟩),
    ((.i32, .i32), ⟨.u32, .u32, .u32, .u32⟩),
    ((.i32, .i64), ⟨.u32, .u64, .u32, .u64⟩),
    ((.i32, .double), ⟨.u32, .u64, .u32, .u64⟩),
    ((.i32, .enum), ⟨.u32, .i64, .u32, .enum32⟩),
    ((.i32, .string), ⟨.u32, .str, .u32, .str⟩),
    ((.i32, .strct), ⟨.iter, .iter, .u32, .dispatch⟩),
    ((.i32, .map), ⟨.iter, .iter, .u32, .dispatch⟩),
    ((.i32, .set), ⟨.iter, .iter, .u32, .dispatch⟩),
    ((.i32, .list), ⟨.iter, .iter, .u32, .dispatch⟩),
    ((.i64, .bool), ⟨.u64, .bool, .u64, .boolNorm⟩),
    ((.i64, .byte), ⟨.u64, .u8, .u64, .byte⟩),
    ((.i64, .i16), ⟨.u64, .u16, .u64, .u16⟩),
    ((.i64, .i32), ⟨.u64, .u32, .u64, .u32⟩),
    ((.i64, .i64), ⟨.u64, .u64, .u64, .u64⟩),
    ((.i64, .double), ⟨.u64, .u64, .u64, .u64⟩),
    ((.i64, .enum), ⟨.u64, .i64, .u64, .enum32⟩),
    ((.i64, .string), ⟨.u64, .str, .u64, .str⟩),
    ((.i64, .strct), ⟨.iter, .iter, .u64, .dispatch⟩),
    ((.i64, .map), ⟨.iter, .iter, .u64, .dispatch⟩),
    ((.i64, .set), ⟨.iter, .iter, .u64, .dispatch⟩),
    ((.i64, .list), ⟨.iter, .iter, .u64, .dispatch⟩),
    ((.double, .bool), ⟨.u64, .bool, .u64, .boolNorm⟩),
    ((.double, .byte), ⟨.u64, .u8, .u64, .byte⟩),
    ((.double, .i16), ⟨.u64, .u16, .u64, .u16⟩),
    ((.double, .i32), ⟨.u64, .u32, .u64, .u32⟩),
    ((.double, .i64), ⟨.u64, .u64, .u64, .u64⟩),
    ((.double, .double), ⟨.u64, .u64, .u64, .u64⟩),
    ((.double, .enum), ⟨.u64, .i64, .u64, .enum32⟩),
    ((.double, .string), ⟨.u64, .str, .u64, .str⟩),
    ((.double, .strct), ⟨.iter, .iter, .u64, .dispatch⟩),
    ((.double, .map), ⟨.iter, .iter, .u64, .dispatch⟩),
    ((.double, .set), ⟨.iter, .iter, .u64, .dispatch⟩),
    ((.double, .list), ⟨.iter, .iter, .u64, .dispatch⟩),
    ((.enum, .bool), ⟨.i64, .bool, .enum32, .boolNorm⟩),
    ((.enum, .byte), ⟨.i64, .u8, .enum32, .byte⟩),
    ((.enum, .i16), ⟨.i64, .u16, .enum32, .u16⟩),
    ((.enum, .i32), ⟨.i64, .u32, .enum32, .u32⟩),
    ((.enum, .i64), ⟨.i64, .u64, .enum32, .u64⟩),
    ((.enum, .double), ⟨.i64, .u64, .enum32, .u64⟩),
    ((.enum, .enum), ⟨.i64, .i64, .enum32, .enum32⟩),
    ((.enum, .string), ⟨.i64, .str, .enum32, .str⟩),
    ((.enum, .strct), ⟨.iter, .iter, .enum32, .dispatch⟩),
    ((.enum, .map), ⟨.iter, .iter, .enum32, .dispatch⟩),
    ((.enum, .set), ⟨.iter, .iter, .enum32, .dispatch⟩),
    ((.enum, .list), ⟨.iter, .iter, .enum32, .dispatch⟩),
    ((.string, .bool), ⟨.str, .bool, .str, .boolNorm⟩),
    ((.string, .byte), ⟨.str, .u8, .str, .byte⟩),
    ((.string, .i16), ⟨.str, .u16, .str, .u16⟩),
    ((.string, .i32), ⟨.str, .u32, .str, .u32⟩),
    ((.string, .i64), ⟨.str, .u64, .str, .u64⟩),
    ((.string, .double), ⟨.str, .u64, .str, .u64⟩),
    ((.string, .enum), ⟨.str, .i64, .str, .enum32⟩),
    ((.string, .string), ⟨.str, .str, .str, .str⟩),
    ((.string, .strct), ⟨.iter, .iter, .str, .dispatch⟩),
    ((.string, .map), ⟨.iter, .iter, .str, .dispatch⟩),
    ((.string, .set), ⟨.iter, .iter, .str, .dispatch⟩),
    ((.string, .list), ⟨.iter, .iter, .str, .dispatch⟩),
    ((.strct, .bool), ⟨.iter, .iter, .dispatch, .byte⟩),
    ((.strct, .byte), ⟨.iter, .iter, .dispatch, .byte⟩),
    ((.strct, .i16), ⟨.iter, .iter, .dispatch, .u16⟩),
    ((.strct, .i32), ⟨.iter, .iter, .dispatch, .u32⟩),
    ((.strct, .i64), ⟨.iter, .iter, .dispatch, .u64⟩),
    ((.strct, .double), ⟨.iter, .iter, .dispatch, .u64⟩),
    ((.strct, .enum), ⟨.iter, .iter, .dispatch, .enum32⟩),
    ((.strct, .string), ⟨.iter, .iter, .dispatch, .str⟩),
    ((.strct, .strct), ⟨.iter, .iter, .dispatch, .dispatch⟩),
    ((.strct, .map), ⟨.iter, .iter, .dispatch, .dispatch⟩),
    ((.strct, .set), ⟨.iter, .iter, .dispatch, .dispatch⟩),
    ((.strct, .list), ⟨.iter, .iter, .dispatch, .dispatch⟩),
    ((.map, .bool), ⟨.iter, .iter, .dispatch, .byte⟩),
    ((.map, .byte), ⟨.iter, .iter, .dispatch, .byte⟩),
    ((.map, .i16), ⟨.iter, .iter, .dispatch, .u16⟩),
    ((.map, .i32), ⟨.iter, .iter, .dispatch, .u32⟩),
    ((.map, .i64), ⟨.iter, .iter, .dispatch, .u64⟩),
    ((.map, .double), ⟨.iter, .iter, .dispatch, .u64⟩),
    ((.map, .enum), ⟨.iter, .iter, .dispatch, .enum32⟩),
    ((.map, .string), ⟨.iter, .iter, .dispatch, .str⟩),
    ((.map, .strct), ⟨.iter, .iter, .dispatch, .dispatch⟩),
    ((.map, .map), ⟨.iter, .iter, .dispatch, .dispatch⟩),
    ((.map, .set), ⟨.iter, .iter, .dispatch, .dispatch⟩),
    ((.map, .list), ⟨.iter, .iter, .dispatch, .dispatch⟩),
    ((.set, .bool), ⟨.iter, .iter, .dispatch, .byte⟩),
    ((.set, .byte), ⟨.iter, .iter, .dispatch, .byte⟩),
    ((.set, .i16), ⟨.iter, .iter, .dispatch, .u16⟩),
    ((.set, .i32), ⟨.iter, .iter, .dispatch, .u32⟩),
    ((.set, .i64), ⟨.iter, .iter, .dispatch, .u64⟩),
    ((.set, .double), ⟨.iter, .iter, .dispatch, .u64⟩),
    ((.set, .enum), ⟨.iter, .iter, .dispatch, .enum32⟩),
    ((.set, .string), ⟨.iter, .iter, .dispatch, .str⟩),
    ((.set, .strct), ⟨.iter, .iter, .dispatch, .dispatch⟩),
    ((.set, .map), ⟨.iter, .iter, .dispatch, .dispatch⟩),
    ((.set, .set), ⟨.iter, .iter, .dispatch, .dispatch⟩),
    ((.set, .list), ⟨.iter, .iter, .dispatch, .dispatch⟩),
    ((.list, .bool), ⟨.iter, .iter, .dispatch, .byte⟩),
    ((.list, .byte), ⟨.iter, .iter, .dispatch, .byte⟩),
    ((.list, .i16), ⟨.iter, .iter, .dispatch, .u16⟩),
    ((.list, .i32), ⟨.iter, .iter, .dispatch, .u32⟩),
    ((.list, .i64), ⟨.iter, .iter, .dispatch, .u64⟩),
    ((.list, .double), ⟨.iter, .iter, .dispatch, .u64⟩),
    ((.list, .enum), ⟨.iter, .iter, .dispatch, .enum32⟩),
    ((.list, .string), ⟨.iter, .iter, .dispatch, .str⟩),
    ((.list, .strct), ⟨.iter, .iter, .dispatch, .dispatch⟩),
    ((.list, .map), ⟨.iter, .iter, .dispatch, .dispatch⟩),
    ((.list, .set), ⟨.iter, .iter, .dispatch, .dispatch⟩),
    ((.list, .list), ⟨.iter, .iter, .dispatch, .dispatch⟩)]
  mapDefault := ⟨.iter, .iter, .any, .any⟩
  mapBinaryGuard := true
  mapDoubleKeyGuard := true
  binarySeesThroughPtr := true
}

/-- the reference tables satisfy every side condition of the generic theorems -/
theorem params_valid : params.valid = true := by
  have : params.validMap = true := Params.validMap_of_rows (by decide)
  simp only [Params.valid, this, Bool.and_true]
  decide

end Frugal.Reference
