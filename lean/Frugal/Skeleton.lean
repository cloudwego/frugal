/-
  Skeleton.lean -- fingerprints of the control structure (guards, switches, loops, returns, call
  sequence) of the Go functions that the hand-written parts of the model were written from and
  validated against, on the unchanged tree; committed (tools/mkreference.py).  Props/Inst/F_skeleton_*.lean
  compares them with the regenerated ones: an edit that adds, drops or reorders a check in one of
  those functions fails the obligation whatever the correspondence run happens to sample.
-/
namespace Frugal.Skeleton
def decoder : String := "17ca3b1513b97227a6799a0a"
def encoder : String := "5cbdaefa998ed87261c39697"
def resolver : String := "dc943200c8dda6024f8f48fc"
/-- full text (not only control structure) of `structDesc`, `tField`, `tType`, `fromDefsFields`,
    `fromDefsField`, `GetField`, `newTType`: the descriptor tables every codec theorem takes for granted -/
def descTable : String := "cbfebd4eaff63fd247cc0a76"
/-- every store into package-level state of `internal/reflect` and `internal/defs` outside `init` functions
    ("pkg/file:func writes var"): the descriptor build under its lock (`createStructDesc`,
    `newStructDescAndPrefetch`, `fetchStructDesc`, `rollbackBuild`, `newTType`), the two table registrations
    that only `init` calls, and the caller-less caching `ResolveFields` under its own lock — nothing on the
    encode / size / decode paths -/
def sharedWrites : List String := ["defs/resolver.go:ResolveFields writes fieldsCache", "reflect/append_list.go:registerListAppendFunc writes listAppendFuncs", "reflect/append_map.go:registerMapAppendFunc writes mapAppendFuncs", "reflect/desc.go:createStructDesc writes buildCached", "reflect/desc.go:createStructDesc writes buildLinked", "reflect/desc.go:fetchStructDesc writes buildLinked", "reflect/desc.go:newStructDescAndPrefetch writes buildCached", "reflect/desc.go:newStructDescAndPrefetch writes prefetchStructDescCache", "reflect/desc.go:rollbackBuild writes prefetchStructDescCache", "reflect/ttype.go:newTType writes ttypes"]
/-- full normalised text of every function and package-level declaration of `internal/defs` /
    `internal/reflect` (hooks aside) that none of the fingerprints above, no table translation and no
    protocol fact looks at: the small predicates and helpers the model mirrors by hand -/
def residualDefs : String := "2f863e8ac98e98063831115e"
def residualReflect : String := "82e3c8dd9c9235ca4f17fb71"
end Frugal.Skeleton
