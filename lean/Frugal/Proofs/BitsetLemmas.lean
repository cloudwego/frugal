import Frugal.Bitset
import Frugal.Valid
namespace Frugal

theorem and_two_pow_ne_zero (a k : Nat) : ((a &&& 2 ^ k) != 0) = a.testBit k := by
  have h : a &&& 2 ^ k = if a.testBit k then 2 ^ k else 0 := by
    apply Nat.eq_of_testBit_eq
    intro i
    rw [Nat.testBit_and, Nat.testBit_two_pow]
    by_cases hk : k = i
    · subst hk
      cases hb : a.testBit k <;> simp
    · cases hb : a.testBit k <;> simp [hk]
  rw [h]
  cases hb : a.testBit k <;> simp

/-- `Params.validBitset` as propositions: the mask is `2^shift - 1`, the words cover all 16-bit ids, a bit index
    fits a 64-bit word -/
structure BsOK (P : Params) : Prop where
  pow : 2 ^ P.bsShift = P.bsMask + 1
  cover : 65536 ≤ P.bsWords * 2 ^ P.bsShift
  small : P.bsShift ≤ 6

theorem bsOK_of_valid {P : Params} (h : P.validBitset = true) : BsOK P := by
  simp only [Params.validBitset, Bool.and_eq_true, beq_iff_eq, decide_eq_true_eq] at h
  exact ⟨h.1.1, h.1.2, h.2⟩

variable {P : Params}

theorem bsIdx_fst (i : Nat) : (bsIdx P i).1 = i / 2 ^ P.bsShift := by
  simp [bsIdx, Nat.shiftRight_eq_div_pow]

theorem bsIdx_snd (h : BsOK P) (i : Nat) : (bsIdx P i).2 = i % 2 ^ P.bsShift := by
  have : P.bsMask = 2 ^ P.bsShift - 1 := by have := h.pow; omega
  simp [bsIdx, this, Nat.and_two_pow_sub_one_eq_mod]

theorem bsIdx_inj (h : BsOK P) {i j : Nat} (e : bsIdx P i = bsIdx P j) : i = j := by
  -- `i` is its word index times the word size plus its bit index, and so is `j`
  have hi := Nat.div_add_mod i (2 ^ P.bsShift)
  rw [← bsIdx_fst, ← bsIdx_snd h, e, bsIdx_fst, bsIdx_snd h, Nat.div_add_mod] at hi
  exact hi.symm

theorem bsIdx_snd_lt (h : BsOK P) (i : Nat) : (bsIdx P i).2 < 64 := by
  rw [bsIdx_snd h]
  have h2 : 2 ^ P.bsShift ≤ 2 ^ 6 := Nat.pow_le_pow_right (by decide) h.small
  omega

theorem one_shl_mod {y : Nat} (hy : y < 64) : (1 <<< y) % two64 = 2 ^ y := by
  rw [Nat.one_shiftLeft]
  exact Nat.mod_eq_of_lt (Nat.pow_lt_pow_right (by decide) hy)

/-- every 16-bit field id indexes inside the array: no index panic -/
theorem bsInRange_of_lt (h : BsOK P) {i : Nat} (hi : i < 65536) : bsInRange P i = true := by
  simp only [bsInRange, decide_eq_true_eq]
  rw [bsIdx_fst]
  have := h.cover
  apply (Nat.div_lt_iff_lt_mul (Nat.two_pow_pos _)).mpr
  omega

theorem test_set (h : BsOK P) (s : BitSet) (i j : Nat) :
    (s.set P i).test P j = (decide (i = j) || s.test P j) := by
  have hyi := bsIdx_snd_lt h i
  have hyj := bsIdx_snd_lt h j
  simp only [BitSet.set, BitSet.test]
  rw [one_shl_mod hyi, one_shl_mod hyj, and_two_pow_ne_zero, and_two_pow_ne_zero]
  by_cases hx : (bsIdx P j).1 = (bsIdx P i).1
  · simp only [hx, ↓reduceIte, Nat.testBit_or, Nat.testBit_two_pow]
    by_cases hy : (bsIdx P i).2 = (bsIdx P j).2
    · have : i = j := bsIdx_inj h (Prod.ext hx.symm hy)
      simp [this]
    · have : i ≠ j := fun e => hy (by rw [e])
      simp [hy, this, Bool.or_comm]
  · have : i ≠ j := fun e => hx (by rw [e])
    simp [hx, this]

theorem test_unset (h : BsOK P) (s : BitSet) (i j : Nat) :
    (s.unset P i).test P j = (!decide (i = j) && s.test P j) := by
  have hyi := bsIdx_snd_lt h i
  have hyj := bsIdx_snd_lt h j
  have hones : (two64 - 1).testBit (bsIdx P j).2 = true := by
    rw [show two64 = 2 ^ 64 from rfl, Nat.testBit_two_pow_sub_one]
    simpa using hyj
  simp only [BitSet.unset, BitSet.test]
  rw [one_shl_mod hyi, one_shl_mod hyj, and_two_pow_ne_zero, and_two_pow_ne_zero]
  by_cases hx : (bsIdx P j).1 = (bsIdx P i).1
  · simp only [hx, ↓reduceIte, Nat.testBit_and, Nat.testBit_xor, Nat.testBit_two_pow, hones]
    by_cases hy : (bsIdx P i).2 = (bsIdx P j).2
    · have : i = j := bsIdx_inj h (Prod.ext hx.symm hy)
      simp [this]
    · have : i ≠ j := fun e => hy (by rw [e])
      simp [hy, this, Bool.and_comm]
  · have : i ≠ j := fun e => hx (by rw [e])
    simp [hx, this]

/-- what `Decode` does with the pooled set: clear the required ids, then set every decoded id -/
def presenceRun (P : Params) (s0 : BitSet) (req seen : List Nat) : BitSet :=
  seen.foldl (BitSet.set P) (req.foldl (BitSet.unset P) s0)

theorem test_foldl_unset (h : BsOK P) (req : List Nat) (s : BitSet) (r : Nat) :
    (req.foldl (BitSet.unset P) s).test P r = (!decide (r ∈ req) && s.test P r) := by
  induction req generalizing s with
  | nil => simp
  | cons a t ih =>
    rw [List.foldl_cons, ih, test_unset h]
    by_cases e : r = a <;> simp [e, eq_comm (a := a)]

theorem test_foldl_set (h : BsOK P) (seen : List Nat) (s : BitSet) (r : Nat) :
    (seen.foldl (BitSet.set P) s).test P r = (decide (r ∈ seen) || s.test P r) := by
  induction seen generalizing s with
  | nil => simp
  | cons a t ih =>
    rw [List.foldl_cons, ih, test_set h]
    by_cases e : r = a <;> simp [e, eq_comm (a := a)]

/-- whatever the pooled set held before, a required id tests true exactly when it was decoded -/
theorem presence_clean (h : BsOK P) (s0 : BitSet) (req seen : List Nat) (r : Nat) (hr : r ∈ req) :
    (presenceRun P s0 req seen).test P r = decide (r ∈ seen) := by
  unfold presenceRun
  rw [test_foldl_set h, test_foldl_unset h]
  simp [hr]

end Frugal
