/-
  `readVal_sim` at `c = true`, read from the side of `S.clearNC`.  Only this direction holds at equal
  depth budget: a `nocopy` string costs the reader of `S` no depth and the reader of `S.clearNC` one level.
-/
import Frugal.Proofs.ReaderRel
import Frugal.Proofs.ReaderPlain
namespace Frugal
open Outcome (Sim)

theorem clearNC_noNocopy (S : Schema) : ∀ sid, ∀ f ∈ (S.clearNC.get sid).fields, f.nocopy = false := by
  intro sid f hf
  obtain ⟨g, _, rfl⟩ := mem_clearNC_fields hf
  rfl

theorem clearNC_dflt_plain (S : Schema)
    (hdf : ∀ sid, ∀ f ∈ (S.get sid).fields, ∀ d, f.dflt = some d → plain d = true) :
    ∀ sid, ∀ f ∈ (S.clearNC.get sid).fields, f.assigned = true → ∀ d, f.dflt = some d → plain d = true := by
  intro sid f hf _ d hd
  obtain ⟨g, hg, rfl⟩ := mem_clearNC_fields hf
  exact hdf sid g hg d hd

section
variable (P : Params) (S : Schema) (total : Nat)
variable (hS : S.ok = true)
  (hdf : ∀ sid, ∀ f ∈ (S.get sid).fields, ∀ d, f.dflt = some d → plain d = true)
include hS hdf

theorem valSim_clearNC (fuel : Nat) : ValSim P S true total total fuel :=
  (readVal_sim P S true total total (fun _ => ncStr_of_ok hS) (fun sid f hf _ => hdf sid f hf) fuel).1

theorem readVal_erase : ∀ (tv : TVal) (fuel : Nat) (t : Ty) (tail : Nat) (dest w' : Val),
    readVal P S.clearNC total fuel t tv tail (erase dest) = .ok w' →
    ∃ w, readVal P S total fuel t tv tail dest = .ok w ∧ erase w = w' ∧ notView w = true := by
  intro tv fuel t tail dest w' h
  obtain ⟨w, hw, e⟩ :=
    (valSim_clearNC P S total hS hdf fuel t tv tail tail dest (erase dest) (erase_erase dest).symm).ok_inv h
  have hp := (reader_plain P S.clearNC total (clearNC_noNocopy S) (clearNC_dflt_plain S hdf)).1 h (plain_erase dest)
  exact ⟨w, hw, e.trans (erase_plain w' hp), (reader_notView P S total).1 hw⟩

theorem readList_erase : ∀ (xs : List TVal) (fuel : Nat) (et : Ty) (tail : Nat) (vs' : List Val),
    readList P S.clearNC total fuel et xs tail = .ok vs' →
    ∃ vs, readList P S total fuel et xs tail = .ok vs ∧ eraseList vs = vs' := by
  intro xs fuel et tail vs' h
  obtain ⟨vs, hv, e⟩ :=
    (readList_sim P S true total total fuel (valSim_clearNC P S total hS hdf fuel) et tail tail xs).ok_inv h
  have hp := (reader_plain P S.clearNC total (clearNC_noNocopy S) (clearNC_dflt_plain S hdf)).2.2.2.2.1 h
  exact ⟨vs, hv, e.trans (eraseList_plain vs' hp)⟩

theorem readEntries_erase : ∀ (es : List (TVal × TVal)) (fuel : Nat) (kt vt : Ty) (tail : Nat)
    (acc res' : List (Val × Val)), (∀ p ∈ acc, notView p.1 = true) →
    readEntries P S.clearNC total fuel kt vt es tail (eraseEntries acc) = .ok res' →
    ∃ res, readEntries P S total fuel kt vt es tail acc = .ok res ∧ eraseEntries res = res' := by
  intro es fuel kt vt tail acc res' ha h
  obtain ⟨res, hr, e⟩ :=
    (readEntries_sim P S true total total fuel (valSim_clearNC P S total hS hdf fuel) kt vt tail tail es
      acc (eraseEntries acc) ha (eraseEntries_keys_notView acc) (eraseEntries_eraseEntries acc).symm).ok_inv h
  have hp := (reader_plain P S.clearNC total (clearNC_noNocopy S) (clearNC_dflt_plain S hdf)).2.2.2.2.2 h
    (plainEntries_eraseEntries acc)
  exact ⟨res, hr, e.trans (eraseEntries_plain res' hp)⟩
end

theorem readMessage_erase (P : Params) (S : Schema) (hS : S.ok = true)
    (hdf : ∀ sid, ∀ f ∈ (S.get sid).fields, ∀ d, f.dflt = some d → plain d = true)
    (sid : Nat) (fs : List (Nat × TVal)) (trailing : Nat) (vs : List Val) (hh : Bytes) (w' : Val)
    (h : readMessage P S.clearNC sid fs trailing (.st (eraseList vs) hh) = .ok w') :
    ∃ w, readMessage P S sid fs trailing (.st vs hh) = .ok w ∧ erase w = w' := by
  obtain ⟨w, hw, e⟩ :=
    ((readVal_sim P S true _ _ (fun _ => ncStr_of_ok hS) (fun sid f hf _ => hdf sid f hf) P.maxDepth).2
      sid fs trailing trailing (.st vs hh) _ (erase_erase (.st vs hh)).symm).ok_inv h
  have hp := (reader_plain P S.clearNC _ (clearNC_noNocopy S) (clearNC_dflt_plain S hdf)).2.1 h (plain_erase (.st vs hh))
  exact ⟨w, hw, e.trans (erase_plain w' hp)⟩

end Frugal
