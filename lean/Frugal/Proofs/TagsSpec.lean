import Frugal.Proofs.TagsOk
namespace Frugal

theorem ptr_disallowed (e : GoTy) (hasDef : Bool) (d : List Char) :
    doParseType (.ptr e) hasDef d false = none := rfl

theorem unsupported_kinds (k : GoKind) :
    kindTag k = none ↔ k ∈ [GoKind.uint, .uint8, .uint16, .uint32, .uint64, .uintptr, .float32,
      .complex64, .complex128, .chan, .func, .iface, .unsafeptr] := by
  cases k <;> decide

/-- what a slice or a map parses to is no base type and no struct -/
theorem ptr_to_container_none (e : GoTy) (hasDef : Bool) (d : List Char) (allow : Bool)
    (he : (∃ x, e = .slice x ∧ x ≠ .prim .uint8 "uint8") ∨ (∃ k v, e = .map k v)) :
    doParseType (.ptr e) hasDef d allow = none := by
  cases h : doParseType (.ptr e) hasDef d allow with
  | none => rfl
  | some p =>
    obtain ⟨_, t', _, hin, hshape⟩ :=
      doParseType_ptr_some (t := p.1) (r := p.2) (fun t' r' h' => (parseType_ok e hasDef d false t' r' h').2 rfl) h
    rcases he with ⟨x, rfl, hx⟩ | ⟨k, v, rfl⟩
    · obtain ⟨_, _, _, _, _, _, _, _, _, _, _, ht⟩ := doParseType_slice_some x hasDef d false t' _ hx hin
      rcases ht with ⟨_, rfl⟩ | ⟨_, rfl⟩ <;> rcases hshape with ⟨_, h⟩ | ⟨_, h⟩ <;> cases h
    · obtain ⟨_, _, rfl, _⟩ := doParseType_map_some k v hasDef d false t' _ hin
      rcases hshape with ⟨_, h⟩ | ⟨_, h⟩ <;> cases h

theorem key_types (t : Ty) : isKeyType t = true ↔
    (∃ k, t = .base k ∧ k ≠ .binary) ∨ (∃ s, t = .ptr (.strct s)) := by
  cases t with
  | base k => cases k <;> simp [isKeyType]
  | ptr e => cases e <;> simp [isKeyType]
  | _ => simp [isKeyType]

theorem value_types (t : Ty) : isValueType t = true ↔ (t.isPtr = false ∨ ∃ s, t = .ptr (.strct s)) := by
  cases t with
  | ptr e => cases e <;> simp [isValueType, Ty.isPtr]
  | _ => simp [isValueType, Ty.isPtr]

theorem parseOpts_unknown (t : Ty) (o : List Char) (r : List (List Char)) (acc : Bool)
    (h : o ≠ "nocopy".toList) : parseOpts t (o :: r) acc = none := by
  unfold parseOpts
  rw [if_neg (fun hb => h (eq_of_beq hb))]

theorem parseOpts_nocopy_nonstring (t : Ty) (r : List (List Char)) (acc : Bool)
    (h : t.isStringWire = false) : parseOpts t ("nocopy".toList :: r) acc = none := by
  simp [parseOpts, h]

theorem parseOpts_nocopy_twice (t : Ty) (r : List (List Char)) :
    parseOpts t ("nocopy".toList :: "nocopy".toList :: r) false = none := by
  simp only [parseOpts]
  cases t.isStringWire <;> simp

theorem ignored_fields (hasInit : Bool) (gf : GoField) (r : List GoField) (ids : List Nat)
    (h : gf.anonymous = true ∨ gf.exported = false ∨ lookupStructTag gf.tag = none) :
    resolveFieldsAux hasInit (gf :: r) ids = resolveFieldsAux hasInit r ids := by
  rw [resolveFieldsAux]
  rcases h with h | h | h
  · simp [h]
  · simp [h]
  · split <;> simp [h]

theorem bad_field_rejects (hasInit : Bool) (pre post : List GoField) (gf : GoField) (ids : List Nat)
    (ft : List (List Char))
    (hpre : ∀ g ∈ pre, g.anonymous = true ∨ g.exported = false ∨ lookupStructTag g.tag = none)
    (h0 : gf.anonymous = false) (h1 : gf.exported = true)
    (ht : lookupStructTag gf.tag = some ft) (hf : resolveField hasInit gf ft = none) :
    resolveFieldsAux hasInit (pre ++ gf :: post) ids = none := by
  induction pre with
  | nil =>
    rw [List.nil_append, resolveFieldsAux]
    simp [h0, h1, ht, hf]
  | cons g pre ih =>
    obtain ⟨hg, hpre⟩ := List.forall_mem_cons.1 hpre
    rw [List.cons_append, ignored_fields _ g _ ids hg]
    exact ih hpre

/-- two tagged fields with the same id: the struct is refused -/
theorem duplicate_id_rejects (hasInit : Bool) (gfs : List GoField) (fs : List Field)
    (h : resolveFieldsAux hasInit gfs [] = some fs) : (fs.map (·.id)).Nodup :=
  (resolveFieldsAux_spec hasInit gfs [] fs h).2.1

theorem insertById_sorted {f : Field} : ∀ {l : List Field},
    l.Pairwise (fun a b => a.id < b.id) → (∀ g ∈ l, g.id ≠ f.id) →
    (insertById f l).Pairwise (fun a b => a.id < b.id)
  | [], _, _ => List.pairwise_singleton _ _
  | x :: r, hs, hne => by
    unfold insertById
    have hx := List.pairwise_cons.1 hs
    split
    · next hlt =>
      exact List.pairwise_cons.2 ⟨List.forall_mem_cons.2 ⟨hlt, fun g hg => Nat.lt_trans hlt (hx.1 g hg)⟩, hs⟩
    · next hge =>
      have hxf : x.id < f.id := by
        have := hne x (by simp)
        omega
      refine List.pairwise_cons.2 ⟨fun g hg => ?_, insertById_sorted hx.2 (List.forall_mem_cons.1 hne).2⟩
      rcases mem_insertById.1 hg with rfl | hg
      · exact hxf
      · exact hx.1 g hg

theorem sortById_sorted : ∀ {l : List Field}, (l.map (·.id)).Nodup →
    (sortById l).Pairwise (fun a b => a.id < b.id)
  | [], _ => List.Pairwise.nil
  | f :: r, h => by
    simp only [List.map_cons, List.nodup_cons, List.mem_map, not_exists, not_and] at h
    exact insertById_sorted (sortById_sorted h.2) fun g hg => h.1 g (mem_sortById.1 hg)

theorem resolveStruct_fields (gs : GoStruct) (sd : SDesc) (h : resolveStruct gs = some sd) :
    sd.fields.Pairwise (fun a b => a.id < b.id) ∧
    ∃ fs, resolveFieldsAux gs.hasInit gs.fields [] = some fs ∧ ∀ f, f ∈ sd.fields ↔ f ∈ fs := by
  unfold resolveStruct at h
  split at h
  · cases h
  next fs hfs =>
  cases h
  exact ⟨sortById_sorted (duplicate_id_rejects _ _ _ hfs), fs, hfs, fun f => mem_sortById⟩

theorem schemaOf_distinct (U : Universe) (sid : Nat) :
    ((schemaOf U).get sid).fields.Pairwise (fun a b => a.id ≠ b.id) := by
  simp only [Schema.get, schemaOf, resolveAll, List.getD_eq_getElem?_getD, List.getElem?_map]
  cases U[sid]? with
  | none => exact List.Pairwise.nil
  | some gs =>
    simp only [Option.map_some, Option.getD_some]
    cases hr : resolveStruct gs with
    | none => exact List.Pairwise.nil
    | some sd => exact (resolveStruct_fields gs sd hr).1.imp Nat.ne_of_lt

theorem no_tag_none (tag : String) (h0 : tagLookup tag "frugal" = none)
    (h : tagLookup tag "thrift" = none) : lookupStructTag tag = none := by
  simp [lookupStructTag, h0, h]

end Frugal
