/-
  The map and the list / set branch of `skipType` as functions of the recursive skipper (`skipType_succ`)
  and one step of each loop in `bind` form: soundness and completeness both start here, and nothing
  else unfolds `skipType`.
-/
import Frugal.Proofs.SerFacts
namespace Frugal
open Outcome

section
variable (P : Params) (sk : Nat → Bytes → Outcome Nat)

/-- `skipType`, the `t = 13` branch -/
def skipMap (b : Bytes) : Outcome Nat :=
  match rd8 b with
  | none => .err .skip
  | some (kt, r) =>
    match rd8 r with
    | none => .err .skip
    | some (vt, r1) =>
      match rd32 r1 with
      | none => .err .skip
      | some (sz, r2) =>
        if sz ≥ 2147483648 then .err .skip else
        if kt ≥ 128 ∨ vt ≥ 128 then .panic .bounds else
        if P.skipFixedOf kt > 0 ∧ P.skipFixedOf vt > 0 then
          if sz * (P.skipFixedOf kt + P.skipFixedOf vt) > r2.length then .err .skip
          else .ok (6 + sz * (P.skipFixedOf kt + P.skipFixedOf vt))
        else skipMapLoop P sk kt vt sz r2 6

/-- `skipType`, the `t = 14 ∨ t = 15` branch -/
def skipList (b : Bytes) : Outcome Nat :=
  match rd8 b with
  | none => .err .skip
  | some (et, r) =>
    match rd32 r with
    | none => .err .skip
    | some (sz, r1) =>
      if sz ≥ 2147483648 then .err .skip else
      if et ≥ 128 then .panic .bounds else
      if P.skipFixedOf et > 0 then
        if sz * P.skipFixedOf et > r1.length then .err .skip else .ok (5 + sz * P.skipFixedOf et)
      else skipListLoop P sk et sz r1 5

theorem skipType_zero (t : Nat) (b : Bytes) : skipType P 0 t b = .err .depth := by
  unfold skipType; rfl

theorem skipType_succ (fuel t : Nat) (b : Bytes) :
    skipType P (fuel + 1) t b =
      if t ≥ 128 then .panic .bounds
      else if P.skipFixedOf t > 0 then
        if P.skipFixedOf t > b.length then .err .skip else .ok (P.skipFixedOf t)
      else if t = 11 then skipStr b
      else if t = 13 then skipMap P (skipType P fuel) b
      else if t = 14 ∨ t = 15 then skipList P (skipType P fuel) b
      else if t = 12 then skipStructLoop P (skipType P fuel) (b.length + 1) b 0
      else .err .skip := by
  unfold skipType; rfl

end

section
variable {P : Params} (hP : P.valid = true)
include hP

theorem skipType_fixed (fuel : Nat) {t : Nat} (b : Bytes) (ht : t < 128) (hf : wireFixed t > 0) :
    skipType P (fuel + 1) t b = if wireFixed t > b.length then .err .skip else .ok (wireFixed t) := by
  rw [skipType_succ, if_neg (by omega), skipFixed_eq hP t ht, if_pos hf]

theorem skipType_var (fuel : Nat) {t : Nat} (b : Bytes) (ht : t < 128) (hf : ¬ wireFixed t > 0) :
    skipType P (fuel + 1) t b =
      if t = 11 then skipStr b
      else if t = 13 then skipMap P (skipType P fuel) b
      else if t = 14 ∨ t = 15 then skipList P (skipType P fuel) b
      else if t = 12 then skipStructLoop P (skipType P fuel) (b.length + 1) b 0
      else .err .skip := by
  rw [skipType_succ, if_neg (by omega), skipFixed_eq hP t ht, if_neg hf]

end

section
variable (P : Params) (sk : Nat → Bytes → Outcome Nat)

theorem skipListLoop_succ (et n : Nat) (b : Bytes) (i : Nat) :
    skipListLoop P sk et (n + 1) b i =
      if b.isEmpty then .err .skip
      else (skipElem P sk et b).bind fun k => skipListLoop P sk et n (b.drop k) (i + k) := by
  rw [skipListLoop]
  cases skipElem P sk et b <;> rfl

theorem skipMapLoop_succ (kt vt n : Nat) (b : Bytes) (i : Nat) :
    skipMapLoop P sk kt vt (n + 1) b i =
      if b.isEmpty then .err .skip
      else (skipElem P sk kt b).bind fun k =>
        if (b.drop k).isEmpty then .err .skip
        else (skipElem P sk vt (b.drop k)).bind fun k2 =>
          skipMapLoop P sk kt vt n ((b.drop k).drop k2) (i + k + k2) := by
  rw [skipMapLoop]
  cases skipElem P sk kt b with
  | ok k =>
    simp only [Outcome.bind]
    cases skipElem P sk vt (b.drop k) <;> rfl
  | err _ | panic _ => rfl

theorem skipStructLoop_succ (cnt : Nat) (ft : UInt8) (r : Bytes) (i : Nat) :
    skipStructLoop P sk (cnt + 1) (ft :: r) i =
      if ft = 0 then .ok (i + 1)
      else if (r.drop 2).isEmpty then .err .skip
      else (skipElem P sk ft.toNat (r.drop 2)).bind fun k =>
        skipStructLoop P sk cnt ((r.drop 2).drop k) (i + 3 + k) := by
  rw [skipStructLoop]
  simp only
  cases skipElem P sk ft.toNat (r.drop 2) <;> rfl

/-! on an empty rest the counted loops return at once (or fail), the struct loop fails: this is what
    stops a skip that ran past the input -/

theorem skipListLoop_nil {et n i tot : Nat} (h : skipListLoop P sk et n [] i = .ok tot) : tot = i := by
  cases n <;> cases h <;> rfl

theorem skipMapLoop_nil {kt vt n i tot : Nat} (h : skipMapLoop P sk kt vt n [] i = .ok tot) : tot = i := by
  cases n <;> cases h <;> rfl

theorem skipStructLoop_nil {cnt i tot : Nat} : skipStructLoop P sk cnt [] i ≠ .ok tot := by
  cases cnt <;> exact nofun

end

end Frugal
