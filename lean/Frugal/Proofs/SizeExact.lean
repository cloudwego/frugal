/-
  The size walk against the reference encoder (not against the tables).  `sizeFunc_value` is the three-way branch
  (fixed width / string / recursive) every loop shares; the shortcuts — precomputed fixed part, count × width —
  are `sizeVarFields_field_split`, `count_step` and `fixedList_len`.
-/
import Frugal.Proofs.EncodeRefine
import Frugal.Proofs.ToWireDefs
namespace Frugal

theorem encScalar_len (k : Kind) (n : Nat) : (encScalar k n).length = specFixed k.tt := by
  cases k <;> rfl

theorem fixed_len (S : Schema) (ty : Ty) (x : Val) (hf : specFixed ty.tt > 0) (ht : hasTy S ty x = true)
    (hn : nilOK ty x = true) : (refEnc S ty x).length = specFixed ty.tt := by
  refine hasTy_cases (mv := fun ty x => specFixed ty.tt > 0 → nilOK ty x = true →
    (refEnc S ty x).length = specFixed ty.tt) ?sc ?str ?bin ?nilp ?ptr ?lst ?mp ?st ty x ht hf hn
  case sc => exact fun k n _ _ _ _ _ => encScalar_len k n
  case str | bin | mp | st =>
    -- `specFixed` of these tags is 0
    intros
    contradiction
  case nilp =>
    intro e hf hn
    cases e <;> first | cases hf | cases hn
  case ptr => exact fun e v he _ ih hf _ => ih hf (nilOK_of_notPtr he v)
  case lst =>
    intro s e n xs hf
    cases s <;> cases hf

/-- the second conjunct (`strLen` looks through one pointer) is what the pointer case of the first needs -/
theorem str_len (S : Schema) (ty : Ty) (x : Val) (hs : ty.tt = .string) (ht : hasTy S ty x = true) :
    (nilOK ty x = true → (refEnc S ty x).length = 4 + strLen x) ∧
    (ty.isPtr = false → strLen (.ptr x) = strLen x) := by
  refine hasTy_cases (mv := fun ty x => ty.tt = .string →
    (nilOK ty x = true → (refEnc S ty x).length = 4 + strLen x) ∧
    (ty.isPtr = false → strLen (.ptr x) = strLen x)) ?sc ?str ?bin ?nilp ?ptr ?lst ?mp ?st ty x ht hs
  case sc =>
    intro k n hk hb _ hs
    cases k <;> first | exact absurd rfl hk | exact absurd rfl hb | cases hs
  case str | bin =>
    intros
    refine ⟨fun _ => ?_, fun _ => rfl⟩
    simp only [refEnc, encStr, strLen, List.length_append, be32_length]
  case nilp =>
    intro e hs
    refine ⟨fun hn => ?_, fun he => nomatch he⟩
    cases e <;> first | cases hs | cases hn
  case ptr =>
    intro e v he _ ih hs
    refine ⟨fun _ => ?_, fun hp => nomatch hp⟩
    rw [refEnc, (ih hs).2 he]
    exact (ih hs).1 (nilOK_of_notPtr he v)
  case lst =>
    intro s e n xs hs
    cases s <;> cases hs
  case mp | st =>
    intros
    contradiction

theorem sizeFunc_value {P : Params} (hP : P.valid = true) (S : Schema) (ty : Ty) (x : Val)
    (ht : hasTy S ty x = true) (hn : nilOK ty x = true)
    (hrec : specSimple ty.tt = false → sizeFunc P S ty x = (refEnc S ty x).length) :
    (if specFixed ty.tt > 0 then specFixed ty.tt
     else if (ty.tt == TT.string) = true then P.strHeaderLen + strLen x
     else sizeFunc P S ty x) = (refEnc S ty x).length := by
  by_cases hf : specFixed ty.tt > 0
  · rw [if_pos hf, fixed_len S ty x hf ht hn]
  · rw [if_neg hf]
    by_cases hs : ty.tt = .string
    · rw [if_pos (beq_iff_eq.2 hs), (headers_eq hP).2.2.2, (str_len S ty x hs ht).1 hn]
    · rw [if_neg (mt beq_iff_eq.1 hs)]
      -- neither fixed-size nor a string: a struct or a container
      refine hrec ?_
      generalize ty.tt = t at hf hs ⊢
      cases t <;> first | rfl | exact absurd rfl hs | exact absurd (by decide) hf

/-- the map walk skips the entry loop only when it would add nothing -/
theorem sizeEntries_skip (P : Params) (S : Schema) (dk dv : Bool) (k v : Ty) (es : List (Val × Val)) :
    (if (dk && dv) = true then 0 else sizeEntries P S dk dv k v es) = sizeEntries P S dk dv k v es := by
  have done : sizeEntries P S true true k v es = 0 := by
    induction es with
    | nil => rfl
    | cons a t ih =>
      obtain ⟨x, y⟩ := a
      simp [sizeEntries, ih]
  cases dk <;> cases dv <;> first | rfl | exact done.symm

/-- `count × width` up front and nothing in the loop (fixed width), or nothing up front and the value's
    size in the loop: one more entry adds the value's size either way -/
theorem count_step (c : Prop) [Decidable c] (n f X : Nat) :
    (if c then (n + 1) * f else 0) + (if decide c = true then 0 else X) =
      (if c then n * f else 0) + (if c then f else X) := by
  by_cases h : c
  · simp only [h, decide_true, ↓reduceIte, Nat.succ_mul, Nat.add_zero]
  · simp only [h, decide_false, ↓reduceIte, Bool.false_eq_true]

/-- a field with a precomputed size is neither a pointer nor optional, so it is never skipped: the fixed
    part and the loop over the other fields add up to one skip-or-count per field -/
theorem sizeVarFields_field_split (P : Params) (sd : SDesc) (f : Field) (x : Val) (W : Nat)
    (hW : P.fixedSize f.ty.tt > 0 → W = P.fieldHeaderLen + P.fixedSize f.ty.tt) :
    (fieldFixedSize P f).getD 0 +
      (if (fieldFixedSize P f).isSome = true then 0
       else if (canSkipNil P f && isNilWord x) = true then 0
       else if (canSkipDefault sd f && goEqual f.ty.tt f.default x) = true then 0 else W) =
    if (canSkipNil P f && isNilWord x) = true then 0
    else if (canSkipDefault sd f && goEqual f.ty.tt f.default x) = true then 0 else W := by
  generalize hV : (if (canSkipNil P f && isNilWord x) = true then 0
    else if (canSkipDefault sd f && goEqual f.ty.tt f.default x) = true then 0 else W) = V
  have noFixed : fieldFixedSize P f = none →
      (fieldFixedSize P f).getD 0 + (if (fieldFixedSize P f).isSome = true then 0 else V) = V :=
    fun h => by
      rw [h]
      exact Nat.zero_add _
  by_cases hp : f.ty.isPtr = true
  · exact noFixed (by rw [fieldFixedSize, if_pos hp])
  by_cases hopt : (f.req == Req.optional) = true
  · exact noFixed (by rw [fieldFixedSize, if_neg hp, if_pos hopt])
  by_cases hf : P.fixedSize f.ty.tt > 0
  · have : fieldFixedSize P f = some (P.fieldHeaderLen + P.fixedSize f.ty.tt) := by
      rw [fieldFixedSize, if_neg hp, if_neg hopt, if_pos hf]
    simp only [← hV, this, Option.getD_some, Option.isSome_some, ↓reduceIte, canSkipNil, canSkipDefault, hopt,
      Bool.false_and, Bool.false_eq_true, Nat.add_zero, hW hf]
  · exact noFixed (by rw [fieldFixedSize, if_neg hp, if_neg hopt, if_neg hf])

theorem sizeVarFields_field {P : Params} (hP : P.valid = true) (S : Schema) (sd : SDesc) (f : Field) (x : Val)
    (hfok : f.ok = true) (ht : hasTy S f.ty x = true)
    (hrec : specSimple f.ty.tt = false → sizeFunc P S f.ty x = (refEnc S f.ty x).length) :
    (fieldFixedSize P f).getD 0 +
      (if (fieldFixedSize P f).isSome = true then 0
       else if (canSkipNil P f && isNilWord x) = true then 0
       else if (canSkipDefault sd f && goEqual f.ty.tt f.default x) = true then 0
       else if P.fixedSize f.ty.tt > 0 then P.fieldHeaderLen + P.fixedSize f.ty.tt
       else if (f.ty.tt == TT.string) = true then P.fieldHeaderLen + P.strHeaderLen + strLen x
       else P.fieldHeaderLen + sizeFunc P S f.ty x) =
    (if fieldWritten sd f x = true then u8 f.ty.wire :: be16 f.id ++ refEnc S f.ty x else []).length := by
  rw [sizeVarFields_field_split P sd f x _ (fun h => if_pos h)]
  have hskip := skip_eq hP sd f x
  by_cases hw : fieldWritten sd f x = true
  · rw [hw, Bool.and_eq_true, Bool.not_eq_true', Bool.not_eq_true'] at hskip
    have one := sizeFunc_value hP S f.ty x ht (nilOK_of_written hfok hw) hrec
    rw [if_neg (ne_true_of_eq_false hskip.1), if_neg (ne_true_of_eq_false hskip.2), if_pos hw, fixed_eq hP,
      (headers_eq hP).1]
    simp only [List.length_cons, List.length_append, be16_length, ← one]
    -- the header's three bytes, inside each branch on the left and in front of them on the right
    split
    · omega
    · split <;> omega
  · rw [Bool.not_eq_true] at hw
    rw [hw, Bool.and_eq_false_iff, Bool.not_eq_false', Bool.not_eq_false'] at hskip
    rw [hw]
    rcases hskip with h | h
    · rw [if_pos h]
      rfl
    · rw [if_pos h, ite_self]
      rfl

theorem fixedList_len (S : Schema) (e : Ty) (hf : specFixed e.tt > 0)
    (hp : (!e.isPtr || e.isStructPtr) = true) :
    ∀ ys : List Val, hasTyList S e ys = true → (refEncList S e ys).length = ys.length * specFixed e.tt
  | [], _ => (Nat.zero_mul _).symm
  | y :: r, hy => by
    simp only [hasTyList, Bool.and_eq_true] at hy
    have := fixed_len S e y hf hy.1 (nilOK_of_elem hp y)
    simp only [refEncList, List.length_append, List.length_cons, this, fixedList_len S _ hf hp r hy.2]
    rw [Nat.add_mul]
    omega

theorem size_eq_all {P : Params} (hP : P.valid = true) (S : Schema) (hS : S.ok = true) :
    (∀ (ty : Ty) (v : Val), ty.ok = true → hasTy S ty v = true → specSimple ty.tt = false →
      sizeFunc P S ty v = (refEnc S ty v).length) ∧
    (∀ (fs : List Field) (xs : List Val), (∀ f ∈ fs, f.ok = true) → hasTyFields S fs xs = true →
      ∀ sd, fixedLenFieldSize P fs + sizeVarFields P S sd fs xs = (refEncFields S sd fs xs).length) ∧
    (∀ (k v : Ty) (es : List (Val × Val)), (k.ok = true ∧ (!k.isPtr || k.isStructPtr) = true) →
      (v.ok = true ∧ (!v.isPtr || v.isStructPtr) = true) → hasTyEntries S k v es = true →
      (if specFixed k.tt > 0 then es.length * specFixed k.tt else 0) +
      (if specFixed v.tt > 0 then es.length * specFixed v.tt else 0) +
      sizeEntries P S (decide (P.fixedSize k.tt > 0)) (decide (P.fixedSize v.tt > 0)) k v es =
        (refEncEntries S k v es).length) ∧
    (∀ (e : Ty) (xs : List Val), e.ok = true → (!e.isPtr || e.isStructPtr) = true →
      hasTyList S e xs = true → specFixed e.tt = 0 → sizeElems P S e xs = (refEncList S e xs).length) := by
  have base : ∀ (k : Kind) (Q : Prop), specSimple (Ty.base k).tt = false → Q :=
    fun k _ hs => nomatch (base_simple k).symm.trans hs
  refine typed_induct hS ?sc ?str ?bin ?nilB ?nilS ?ptr ?lst ?mp ?st ?lnil ?lcons ?enil ?econs ?fnil ?fcons
  case sc | str | bin | nilB =>
    intros
    exact base _ _ ‹_›
  case nilS => exact fun sid _ => rfl
  case ptr => exact fun e v _ _ _ ih hs => ih hs
  case lst =>
    intro s e n xs _ hp hn ht ih _
    simp only [sizeFunc, refEnc, List.length_cons, List.length_append, be32_length, (headers_eq hP).2.2.1,
      fixed_eq hP]
    cases n with
    | true =>
      rw [List.isEmpty_iff.mp hn]
      rfl
    | false =>
      simp only [Bool.false_eq_true, ↓reduceIte]
      by_cases hf : specFixed e.tt > 0
      · simp only [hf, ↓reduceIte, fixedList_len S e hf hp xs ht]
      · simp only [hf, ↓reduceIte, ih (Nat.eq_zero_of_not_pos hf)]
  case mp =>
    intro k v n es _ _ hn _ ih _
    simp only [sizeFunc, refEnc, List.length_cons, List.length_append, be32_length, (headers_eq hP).2.1,
      fixed_eq hP]
    cases n with
    | true =>
      rw [List.isEmpty_iff.mp hn]
      rfl
    | false =>
      simp only [Bool.false_eq_true, ↓reduceIte]
      by_cases he : es.length = 0
      · rw [List.length_eq_zero_iff.mp he]
        rfl
      · simp only [he, ↓reduceIte, sizeEntries_skip]
        simp only [fixed_eq hP] at ih
        omega
  case st =>
    intro sid fs h hh _ ih _
    simp only [sizeFunc, refEnc, List.length_append, List.length_cons, List.length_nil, ih]
    rcases Bool.or_eq_true .. ▸ hh with hh | hh
    · rw [hh, if_pos rfl]
    · rw [List.isEmpty_iff.mp hh]
      simp only [ite_self, List.length_nil]
  case lnil => exact fun e _ => rfl
  case lcons =>
    intro e x r _ hp ht _ ihx ihr hf
    have := sizeFunc_value hP S e x ht (nilOK_of_elem hp x) ihx
    simp only [hf, Nat.lt_irrefl, ↓reduceIte] at this
    simp only [sizeElems, refEncList, List.length_append, ihr hf, this]
  case enil =>
    intro k v
    simp [sizeEntries, refEncEntries]
  case econs =>
    intro k v a b r hk hv hta htb _ iha ihb ih
    have ka := sizeFunc_value hP S k a hta (nilOK_of_elem hk.2 a) iha
    have vb := sizeFunc_value hP S v b htb (nilOK_of_elem hv.2 b) ihb
    simp only [fixed_eq hP] at ih ⊢
    have ek := count_step (specFixed k.tt > 0) r.length (specFixed k.tt)
      (if (k.tt == TT.string) = true then P.strHeaderLen + strLen a else sizeFunc P S k a)
    have ev := count_step (specFixed v.tt > 0) r.length (specFixed v.tt)
      (if (v.tt == TT.string) = true then P.strHeaderLen + strLen b else sizeFunc P S v b)
    simp only [refEncEntries, List.length_append, List.length_cons, sizeEntries]
    omega
  case fnil => exact fun sd => rfl
  case fcons =>
    intro f fr x xr hf ht _ ihx ihr sd
    have one := sizeVarFields_field hP S sd f x hf ht ihx
    simp only [fixedLenFieldSize, sizeVarFields, refEncFields, List.length_append, ← one, ← ihr sd]
    omega

theorem sizeFunc_eq {P : Params} (hP : P.valid = true) (S : Schema) (hS : S.ok = true) (v : Val) (ty : Ty) :
    ty.ok = true → hasTy S ty v = true → specSimple ty.tt = false →
      sizeFunc P S ty v = (refEnc S ty v).length :=
  (size_eq_all hP S hS).1 ty v

/-- `EncodedSize` returns the number of bytes `Append` writes -/
theorem sizeFunc_eq_append {P : Params} (hP : P.valid = true) (S : Schema) (hS : S.ok = true) (ty : Ty)
    (v : Val) (hok : ty.ok = true) (ht : hasTy S ty v = true) (hs : specSimple ty.tt = false) :
    sizeFunc P S ty v = (appendAny P S ty v).length := by
  rw [sizeFunc_eq hP S hS v ty hok ht hs, appendAny_eq hP S hS v ty hok ht]

theorem sizeElems_eq {P : Params} (hP : P.valid = true) (S : Schema) (hS : S.ok = true) :
    ∀ (xs : List Val) (e : Ty), e.ok = true → (!e.isPtr || e.isStructPtr) = true → specFixed e.tt = 0 →
      hasTyList S e xs = true → sizeElems P S e xs = (refEncList S e xs).length :=
  fun xs e hok hp hf ht => (size_eq_all hP S hS).2.2.2 e xs hok hp ht hf

theorem sizeEntries_eq {P : Params} (hP : P.valid = true) (S : Schema) (hS : S.ok = true) :
    ∀ (es : List (Val × Val)) (k v : Ty), k.ok = true → v.ok = true →
      (!k.isPtr || k.isStructPtr) = true → (!v.isPtr || v.isStructPtr) = true →
      hasTyEntries S k v es = true →
      (if specFixed k.tt > 0 then es.length * specFixed k.tt else 0) +
      (if specFixed v.tt > 0 then es.length * specFixed v.tt else 0) +
      sizeEntries P S (decide (P.fixedSize k.tt > 0)) (decide (P.fixedSize v.tt > 0)) k v es =
        (refEncEntries S k v es).length :=
  fun es k v hk hv hkp hvp ht => (size_eq_all hP S hS).2.2.1 k v es ⟨hk, hkp⟩ ⟨hv, hvp⟩ ht

theorem sizeFields_eq {P : Params} (hP : P.valid = true) (S : Schema) (hS : S.ok = true) :
    ∀ (xs : List Val) (sd : SDesc) (fs : List Field), (∀ f ∈ fs, f.ok = true) →
      hasTyFields S fs xs = true →
      fixedLenFieldSize P fs + sizeVarFields P S sd fs xs = (refEncFields S sd fs xs).length :=
  fun xs sd fs hok ht => (size_eq_all hP S hS).2.1 fs xs hok ht sd

end Frugal
