/- C01 for `S` is C01 for `S.clearNC` (which has no `nocopy` field) carried over by `readMessage_erase`. -/
import Frugal.Proofs.ClearNocopy
import Frugal.Proofs.ViewsLemmas
import Frugal.Proofs.RoundTrip
import Frugal.Proofs.TypedInduct
namespace Frugal

/-- typing looks at a schema only through the holder flags and the field types of its structs -/
theorem hasTy_mono {S S' : Schema} (hh : ∀ sid, (S'.get sid).hasHolder = (S.get sid).hasHolder)
    (hf : ∀ sid, (S'.get sid).fields.map Field.ty = (S.get sid).fields.map Field.ty) :
    (∀ (t : Ty) (v : Val), hasTy S t v = true → hasTy S' t v = true) ∧
    (∀ (fs : List Field) (xs : List Val), hasTyFields S fs xs = true →
      ∀ fs' : List Field, fs'.map Field.ty = fs.map Field.ty → hasTyFields S' fs' xs = true) ∧
    (∀ (k v : Ty) (es : List (Val × Val)), hasTyEntries S k v es = true → hasTyEntries S' k v es = true) ∧
    (∀ (e : Ty) (xs : List Val), hasTyList S e xs = true → hasTyList S' e xs = true) := by
  apply hasTy_induct
  case sc => intro k n _ _ h; cases k <;> exact h
  case str | nilp | lnil | enil => intros; rfl
  case bin => intro n s h; simp only [hasTy, h]
  case ptr => intro e v he _ ih; simp only [hasTy, he, ih, Bool.not_false, Bool.and_self]
  case lst | mp => intro _ _ _ _ h _ ih; simp only [hasTy, h, ih, Bool.and_self]
  case st => intro sid fs h hhd _ ih; simp only [hasTy, hh, hhd, ih _ (hf sid), Bool.and_self]
  case lcons => intro e x r _ _ ihx ihr; simp only [hasTyList, ihx, ihr, Bool.and_self]
  case econs => intro k v a b r _ _ _ iha ihb ihr; simp only [hasTyEntries, iha, ihb, ihr, Bool.and_self]
  case fnil => intro fs' h; cases fs' with
    | nil => rfl
    | cons f' fr' => cases h
  case fcons =>
    intro f fr x xr _ _ ihx ihr fs' h
    cases fs' with
    | nil => cases h
    | cons f' fr' =>
      simp only [List.map_cons, List.cons.injEq] at h
      simp only [hasTyFields, h.1, ihx, ihr fr' h.2, Bool.and_self]

/-- … so two schemas that agree on those type the same values -/
theorem hasTy_congr {S S' : Schema} (hh : ∀ sid, (S'.get sid).hasHolder = (S.get sid).hasHolder)
    (hf : ∀ sid, (S'.get sid).fields.map Field.ty = (S.get sid).fields.map Field.ty) :
    (∀ (t : Ty) (v : Val), hasTy S' t v = hasTy S t v) ∧
    (∀ (fs fs' : List Field) (xs : List Val), fs'.map Field.ty = fs.map Field.ty →
      hasTyFields S' fs' xs = hasTyFields S fs xs) ∧
    (∀ (k v : Ty) (es : List (Val × Val)), hasTyEntries S' k v es = hasTyEntries S k v es) ∧
    (∀ (e : Ty) (xs : List Val), hasTyList S' e xs = hasTyList S e xs) :=
  have h := hasTy_mono hh hf
  have h' := hasTy_mono (S := S') (S' := S) (fun sid => (hh sid).symm) (fun sid => (hf sid).symm)
  ⟨fun t v => Bool.eq_iff_iff.2 ⟨h'.1 t v, h.1 t v⟩,
    fun fs fs' xs e => Bool.eq_iff_iff.2 ⟨fun hx => h'.2.1 fs' xs hx fs e.symm, fun hx => h.2.1 fs xs hx fs' e⟩,
    fun k v es => Bool.eq_iff_iff.2 ⟨h'.2.2.1 k v es, h.2.2.1 k v es⟩,
    fun e xs => Bool.eq_iff_iff.2 ⟨h'.2.2.2 e xs, h.2.2.2 e xs⟩⟩

theorem map_ty_clearNC (fs : List Field) : (fs.map Field.clearNC).map Field.ty = fs.map Field.ty := by
  rw [List.map_map]; rfl

theorem clearNC_hasHolder_get (S : Schema) (sid : Nat) :
    (S.clearNC.get sid).hasHolder = (S.get sid).hasHolder := by rw [get_clearNC]; rfl

theorem clearNC_tys_get (S : Schema) (sid : Nat) :
    (S.clearNC.get sid).fields.map Field.ty = (S.get sid).fields.map Field.ty := by
  rw [get_clearNC, sd_clearNC_fields, map_ty_clearNC]

theorem hasTy_clearNC (S : Schema) : ∀ (v : Val) (t : Ty), hasTy S.clearNC t v = hasTy S t v :=
  fun v t => (hasTy_congr (clearNC_hasHolder_get S) (clearNC_tys_get S)).1 t v
theorem hasTyList_clearNC (S : Schema) : ∀ (xs : List Val) (e : Ty), hasTyList S.clearNC e xs = hasTyList S e xs :=
  fun xs e => (hasTy_congr (clearNC_hasHolder_get S) (clearNC_tys_get S)).2.2.2 e xs
theorem hasTyEntries_clearNC (S : Schema) : ∀ (es : List (Val × Val)) (k v : Ty),
    hasTyEntries S.clearNC k v es = hasTyEntries S k v es :=
  fun es k v => (hasTy_congr (clearNC_hasHolder_get S) (clearNC_tys_get S)).2.2.1 k v es
theorem hasTyFields_clearNC (S : Schema) : ∀ (xs : List Val) (fs : List Field),
    hasTyFields S.clearNC (fs.map Field.clearNC) xs = hasTyFields S fs xs :=
  fun xs fs => (hasTy_congr (clearNC_hasHolder_get S) (clearNC_tys_get S)).2.1 fs _ xs (map_ty_clearNC fs)

/- `toWire`, `rtOK` and `norm` recurse the same way: one case analysis serves the three. -/
mutual
theorem clearNC_eq (S : Schema) : ∀ (v : Val) (t : Ty), toWire S.clearNC t v = toWire S t v ∧
    rtOK S.clearNC t v = rtOK S t v ∧ ∀ d, norm S.clearNC t v d = norm S t v d
  | .sc _, t | .str _, t | .bin _ _, t | .vstr _ _, t | .vbin _ _, t => by
    cases t <;> exact ⟨rfl, by simp [rtOK], fun _ => rfl⟩
  | .nilp, t => by cases t with
    | ptr e =>
      have hn : ∀ d, norm S.clearNC (.ptr e) .nilp d = norm S (.ptr e) .nilp d := fun d => by
        cases e <;> simp [norm, initDest_clearNC, zeroVal_clearNC]
      cases e with
      | strct sid =>
        refine ⟨rfl, ?_, hn⟩
        simp only [rtOK, get_clearNC, sd_clearNC_fields, List.all_map]
        rfl
      | _ => exact ⟨rfl, rfl, hn⟩
    | _ => exact ⟨rfl, rfl, fun _ => rfl⟩
  | .ptr v, t => by cases t with
    | ptr e =>
      have ih := clearNC_eq S v
      cases e <;> simp only [toWire, rtOK, norm, clearNC_length, zeroVal_clearNC, ih, implies_true, and_self]
    | _ => exact ⟨rfl, by simp [rtOK], fun _ => rfl⟩
  | .lst n xs, t => by cases t with
    | list s e => simp only [toWire, rtOK, norm, clearNCList_eq S xs e, implies_true, and_self]
    | _ => exact ⟨rfl, by simp [rtOK], fun _ => rfl⟩
  | .mp n es, t => by cases t with
    | map k v => simp only [toWire, rtOK, norm, clearNCEntries_eq S es k v, implies_true, and_self]
    | _ => exact ⟨rfl, by simp [rtOK], fun _ => rfl⟩
  | .st fs hh, t => by cases t with
    | strct sid =>
      have ih := clearNCFields_eq S fs (S.get sid) (S.get sid).fields
      refine ⟨?_, ?_, fun d => ?_⟩
      · simp only [toWire, get_clearNC, sd_clearNC_fields, ih]
      · simp only [rtOK, get_clearNC, sd_clearNC_fields, ih]
      · simp only [norm, initDest_clearNC, get_clearNC, sd_clearNC_fields]
        cases initDest S sid d with
        | st ds h => simp only [ih]
        | _ => rfl
    | _ => exact ⟨rfl, by simp [rtOK], fun _ => rfl⟩
termination_by structural v => v
theorem clearNCList_eq (S : Schema) : ∀ (xs : List Val) (e : Ty), toWireList S.clearNC e xs = toWireList S e xs ∧
    rtOKList S.clearNC e xs = rtOKList S e xs ∧ normList S.clearNC e xs = normList S e xs
  | [], _ => ⟨rfl, rfl, rfl⟩
  | x :: r, e => by
    simp only [toWireList, rtOKList, normList, clearNC_length, zeroVal_clearNC, clearNC_eq S x e,
      clearNCList_eq S r e, and_self]
termination_by structural xs => xs
theorem clearNCEntries_eq (S : Schema) : ∀ (es : List (Val × Val)) (k v : Ty),
    toWireEntries S.clearNC k v es = toWireEntries S k v es ∧
    rtOKEntries S.clearNC k v es = rtOKEntries S k v es ∧
    ∀ acc, normEntries S.clearNC k v es acc = normEntries S k v es acc
  | [], _, _ => ⟨rfl, rfl, fun _ => rfl⟩
  | (a, b) :: r, k, v => by
    simp only [toWireEntries, rtOKEntries, normEntries, clearNC_length, zeroVal_clearNC, clearNC_eq S a k,
      clearNC_eq S b v, clearNCEntries_eq S r k v, implies_true, and_self]
termination_by structural es => es
theorem clearNCFields_eq (S : Schema) : ∀ (xs : List Val) (sd : SDesc) (fs : List Field),
    toWireFields S.clearNC sd.clearNC (fs.map Field.clearNC) xs = toWireFields S sd fs xs ∧
    rtOKFields S.clearNC sd.clearNC (fs.map Field.clearNC) xs = rtOKFields S sd fs xs ∧
    ∀ ds, normFields S.clearNC sd.clearNC (fs.map Field.clearNC) xs ds = normFields S sd fs xs ds
  | [], sd, fs => by cases fs <;> exact ⟨rfl, rfl, fun _ => rfl⟩
  | x :: r, sd, [] => ⟨rfl, rfl, fun _ => rfl⟩
  | x :: r, sd, f :: fr => by
    have ihx := clearNC_eq S x f.ty
    have ihr := clearNCFields_eq S r sd fr
    refine ⟨?_, ?_, fun ds => ?_⟩
    · simp only [List.map_cons, toWireFields, fieldWritten_clearNC, clearNC_id, clearNC_ty, ihx, ihr]
    · simp only [List.map_cons, rtOKFields, fieldWritten_clearNC, clearNC_ty, ihx, ihr]
    · cases ds with
      | nil => rfl
      | cons d dr => simp only [List.map_cons, normFields, fieldWritten_clearNC, clearNC_ty, ihx, ihr]
termination_by structural xs => xs
end

theorem toWire_clearNC (S : Schema) : ∀ (v : Val) (t : Ty), toWire S.clearNC t v = toWire S t v :=
  fun v t => (clearNC_eq S v t).1
theorem toWireList_clearNC (S : Schema) : ∀ (xs : List Val) (e : Ty), toWireList S.clearNC e xs = toWireList S e xs :=
  fun xs e => (clearNCList_eq S xs e).1
theorem toWireEntries_clearNC (S : Schema) : ∀ (es : List (Val × Val)) (k v : Ty),
    toWireEntries S.clearNC k v es = toWireEntries S k v es := fun es k v => (clearNCEntries_eq S es k v).1
theorem toWireFields_clearNC (S : Schema) : ∀ (xs : List Val) (sd : SDesc) (fs : List Field),
    toWireFields S.clearNC sd.clearNC (fs.map Field.clearNC) xs = toWireFields S sd fs xs :=
  fun xs sd fs => (clearNCFields_eq S xs sd fs).1
theorem rtOK_clearNC (S : Schema) : ∀ (v : Val) (t : Ty), rtOK S.clearNC t v = rtOK S t v :=
  fun v t => (clearNC_eq S v t).2.1
theorem rtOKList_clearNC (S : Schema) : ∀ (xs : List Val) (e : Ty), rtOKList S.clearNC e xs = rtOKList S e xs :=
  fun xs e => (clearNCList_eq S xs e).2.1
theorem rtOKEntries_clearNC (S : Schema) : ∀ (es : List (Val × Val)) (k v : Ty),
    rtOKEntries S.clearNC k v es = rtOKEntries S k v es := fun es k v => (clearNCEntries_eq S es k v).2.1
theorem rtOKFields_clearNC (S : Schema) : ∀ (xs : List Val) (sd : SDesc) (fs : List Field),
    rtOKFields S.clearNC sd.clearNC (fs.map Field.clearNC) xs = rtOKFields S sd fs xs :=
  fun xs sd fs => (clearNCFields_eq S xs sd fs).2.1
theorem norm_clearNC (S : Schema) : ∀ (v : Val) (t : Ty) (d : Val), norm S.clearNC t v d = norm S t v d :=
  fun v t d => (clearNC_eq S v t).2.2 d
theorem normList_clearNC (S : Schema) : ∀ (xs : List Val) (e : Ty), normList S.clearNC e xs = normList S e xs :=
  fun xs e => (clearNCList_eq S xs e).2.2
theorem normEntries_clearNC (S : Schema) : ∀ (es : List (Val × Val)) (k v : Ty) (acc : List (Val × Val)),
    normEntries S.clearNC k v es acc = normEntries S k v es acc :=
  fun es k v acc => (clearNCEntries_eq S es k v).2.2 acc
theorem normFields_clearNC (S : Schema) : ∀ (xs : List Val) (sd : SDesc) (fs : List Field) (ds : List Val),
    normFields S.clearNC sd.clearNC (fs.map Field.clearNC) xs ds = normFields S sd fs xs ds :=
  fun xs sd fs ds => (clearNCFields_eq S xs sd fs).2.2 ds

theorem normTop_clearNC (S : Schema) (sid : Nat) (v d : Val) : normTop S.clearNC sid v d = normTop S sid v d := by
  cases v with
  | st xs h =>
    cases d with
    | st ds h' =>
      simp only [normTop, get_clearNC, sd_clearNC_fields]
      rw [normFields_clearNC S xs (S.get sid) (S.get sid).fields ds]
    | _ => rfl
  | _ => rfl

theorem ok_clearNC (S : Schema) (h : S.ok = true) : S.clearNC.ok = true := by
  simp only [Schema.ok, List.all_eq_true, Schema.clearNC, List.mem_map] at h ⊢
  rintro sd' ⟨sd, hsd, rfl⟩
  have := h sd hsd
  simp only [SDesc.ok, List.all_eq_true, sd_clearNC_fields, List.mem_map] at this ⊢
  rintro f' ⟨f, hf, rfl⟩
  have hf := this f hf
  simp only [Field.ok, Bool.and_eq_true, Bool.or_eq_true, Bool.not_eq_true', beq_iff_eq, clearNC_ty,
    clearNC_req, clearNC_nocopy, clearNC_id] at hf ⊢
  exact ⟨⟨hf.1.1, .inl trivial⟩, hf.2⟩

/-- `Schema.rtSide` without `noNocopy`: the side conditions of `S.clearNC` -/
structure Schema.rtSideNC (S : Schema) : Prop where
  distinct : ∀ sid, (S.get sid).fields.Pairwise (fun a b => a.id ≠ b.id)
  defaultsTyped : ∀ sid, ∀ f ∈ (S.get sid).fields, ∀ d, f.dflt = some d → hasTy S f.ty d = true
  zeroOk : ∀ sid, hasTy S (.strct sid) (zeroVal S S.length (.strct sid)) = true

theorem rtSide_clearNC (S : Schema) (h : S.rtSideNC) : S.clearNC.rtSide := by
  refine ⟨fun sid => ?_, clearNC_noNocopy S, fun sid f hf _ d hd => ?_, fun sid => ?_⟩
  · rw [get_clearNC, sd_clearNC_fields, List.pairwise_map]
    exact h.distinct sid
  · obtain ⟨g, hg, rfl⟩ := mem_clearNC_fields hf
    rw [hasTy_clearNC]
    exact h.defaultsTyped sid g hg d hd
  · rw [clearNC_length, zeroVal_clearNC, hasTy_clearNC]
    exact h.zeroOk sid

theorem messageOf_clearNC (S : Schema) (sid : Nat) (v : Val) : messageOf S.clearNC sid v = messageOf S sid v := by
  cases v with
  | st xs h =>
    simp only [messageOf, get_clearNC, sd_clearNC_fields]
    exact toWireFields_clearNC S xs (S.get sid) (S.get sid).fields
  | _ => rfl

theorem normTop_st (S : Schema) (sid : Nat) (xs ds : List Val) (h h' : Bytes) :
    normTop S sid (.st xs h) (.st ds h') = .st (normFields S (S.get sid) (S.get sid).fields xs ds) h' := rfl

/-- C01 for schemas with `nocopy` fields: the normal form of the value, up to where the bytes of
    `nocopy` strings live (C14 says where) -/
theorem roundtrip_nocopy {P : Params} (hP : P.valid = true) (S : Schema) (hS : S.ok = true)
    (hside : S.rtSideNC) (sid : Nat) (xs ds : List Val) (h' : Bytes)
    (ht : hasTy S (.strct sid) (.st xs []) = true) (hdest : hasTy S (.strct sid) (.st ds h') = true)
    (hn : noHolderList xs = true) (hf : sizesFitList xs = true)
    (hr : rtOK S (.strct sid) (.st xs []) = true)
    (hd : 2 * depth (toWire S (.strct sid) (.st xs [])) ≤ P.maxDepth) :
    ∃ w, decodeM P S sid (appendM P S sid (.st xs [])) (.st ds h') =
        .ok (w, (appendM P S sid (.st xs [])).length) ∧
      erase w = normTop S sid (.st xs []) (.st ds h') := by
  rw [roundtrip_via_reader hP S hS sid xs (.st ds h') ht hn hf]
  have hdf : ∀ sid, ∀ f ∈ (S.get sid).fields, ∀ d, f.dflt = some d → plain d = true :=
    fun sid f hfm d hdd => hasTy_plain S d f.ty (hside.defaultsTyped sid f hfm d hdd)
  have hdp : eraseList ds = ds := by
    simp only [hasTy, Bool.and_eq_true] at hdest
    exact eraseList_plain ds (hasTyFields_plain S ds _ hdest.2)
  have hnorm := readMessage_norm (P := P) S.clearNC (ok_clearNC S hS) (rtSide_clearNC S hside) sid xs [] ds h' 0
    (by rw [hasTy_clearNC]; exact ht) (by rw [hasTy_clearNC]; exact hdest) (by rw [rtOK_clearNC]; exact hr)
    (by rw [toWire_clearNC]; exact hd)
  rw [messageOf_clearNC, ← hdp] at hnorm
  obtain ⟨w, hw, ew⟩ := readMessage_erase P S hS hdf sid _ 0 ds h' _ hnorm
  rw [hdp, normTop_clearNC] at ew
  exact ⟨w, by rw [hw]; rfl, ew⟩

end Frugal
