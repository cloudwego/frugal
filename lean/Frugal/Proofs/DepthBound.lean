/- What the reader skips is bounded by the premise `skipNeed v ≤ P.skipDepth` of case `fieldsUnknown`: `reader_unkOK`
   records it, and C15.deep_unknown_is_depth_error reaches it through `skipType_ser`. -/
import Frugal.Proofs.ReaderInd
namespace Frugal

/- one per struct / list / set / map on a recognised path: fields the schema knows with their declared
   wire type, elements, keys, values -/
mutual
def knownDepth (S : Schema) : Ty → TVal → Nat
  | .strct sid, .strct fs => knownDepthFields S (S.get sid) fs + 1
  | .list _ e, .list _ xs => knownDepthList S e.deref xs + 1
  | .list _ e, .set _ xs => knownDepthList S e.deref xs + 1
  | .map k v, .map _ _ es => knownDepthEntries S k.deref v.deref es + 1
  | _, _ => 0
def knownDepthFields (S : Schema) (sd : SDesc) : List (Nat × TVal) → Nat
  | [] => 0
  | (id, v) :: r =>
      max (match lookupKnown sd id v.tag with
           | some (_, f) => if f.nocopy then 0 else knownDepth S f.ty.deref v
           | none => 0) (knownDepthFields S sd r)
def knownDepthList (S : Schema) (e : Ty) : List TVal → Nat
  | [] => 0
  | x :: r => max (knownDepth S e x) (knownDepthList S e r)
def knownDepthEntries (S : Schema) (k v : Ty) : List (TVal × TVal) → Nat
  | [] => 0
  | (a, b) :: r => max (max (knownDepth S k a) (knownDepth S v b)) (knownDepthEntries S k v r)
end

/-- a pointer is not looked through here: slots are read at the dereferenced type -/
theorem knownDepth_of_fixed (S : Schema) (t : Ty) (tv : TVal) (h : specFixed t.tt > 0) :
    knownDepth S t tv = 0 ∧ knownDepth S t.deref tv = 0 := by
  cases t with
  | base k => cases tv <;> exact ⟨rfl, rfl⟩
  | ptr e =>
    cases e with
    | base _ | ptr _ => cases tv <;> exact ⟨rfl, rfl⟩
    | strct _ | map _ _ => cases h
    | list s e' => cases s <;> cases h
  | strct _ | map _ _ => cases h
  | list s e' => cases s <;> cases h

section
variable (P : Params) (S : Schema) (total : Nat)

/-- the cases that descend (`map`, `list`, `set`, `struct`) read their parts with one unit less -/
theorem reader_depth :
    (∀ {fuel t tv tail dest w}, readVal P S total fuel t tv tail dest = .ok w → knownDepth S t tv ≤ fuel) ∧
    (∀ {fuel sid fs tail dest w}, readStruct P S total fuel sid fs tail dest = .ok w →
      knownDepth S (.strct sid) (.strct fs) ≤ fuel) ∧
    (∀ {fuel sd fs tail st st'}, readFields P S total fuel sd fs tail st = .ok st' →
      knownDepthFields S sd fs ≤ fuel) ∧
    (∀ {fuel t x tail slot w}, readSlot P S total fuel t x tail slot = .ok w → knownDepth S t.deref x ≤ fuel) ∧
    (∀ {fuel et xs tail vs}, readList P S total fuel et xs tail = .ok vs → knownDepthList S et.deref xs ≤ fuel) ∧
    (∀ {fuel kt vt es tail acc res}, readEntries P S total fuel kt vt es tail acc = .ok res →
      knownDepthEntries S kt.deref vt.deref es ≤ fuel) := by
  apply reader_induction
  case fixed => exact fun hfx _ => (knownDepth_of_fixed S _ _ hfx).1 ▸ Nat.zero_le _
  case str => exact @fun _ _ tv _ _ _ _ _ => by cases tv <;> exact Nat.zero_le _
  case map | list | set => exact fun _ ih => Nat.succ_le_succ ih
  case structVal => exact fun _ ih => Nat.le_succ_of_le ih
  case struct => exact fun _ _ ih => Nat.succ_le_succ ih
  case fieldsNil | listNil | entriesNil => exact Nat.zero_le _
  case fieldsUnknown =>
    refine fun hk _ _ ih => ?_
    simpa only [knownDepthFields, hk, Nat.zero_max] using ih
  case fieldsView =>
    refine fun hk _ hnc _ _ ih => ?_
    simpa only [knownDepthFields, hk, hnc, ↓reduceIte, Nat.zero_max] using ih
  case fieldsKnown =>
    refine fun hk _ _ ihx _ ih => ?_
    simp only [knownDepthFields, hk]
    split
    · exact Nat.max_le.2 ⟨Nat.zero_le _, ih⟩
    · exact Nat.max_le.2 ⟨ihx, ih⟩
  case slotFixed => exact fun hfx _ => (knownDepth_of_fixed S _ _ hfx).2 ▸ Nat.zero_le _
  case slotVal => exact fun _ _ ih => ih
  case listCons => exact fun _ ihx _ ih => Nat.max_le.2 ⟨ihx, ih⟩
  case entriesCons => exact fun _ ihk _ ihv _ ih => Nat.max_le.2 ⟨Nat.max_le.2 ⟨ihk, ihv⟩, ih⟩

theorem readVal_depth : ∀ (tv : TVal) (fuel : Nat) (t : Ty) (tail : Nat) (dest w : Val),
    readVal P S total fuel t tv tail dest = .ok w → knownDepth S t tv ≤ fuel :=
  fun _ _ _ _ _ _ h => (reader_depth P S total).1 h

theorem readList_depth : ∀ (xs : List TVal) (fuel : Nat) (et : Ty) (tail : Nat) (vs : List Val),
    readList P S total fuel et xs tail = .ok vs → knownDepthList S et.deref xs ≤ fuel :=
  fun _ _ _ _ _ h => (reader_depth P S total).2.2.2.2.1 h

theorem readEntries_depth : ∀ (es : List (TVal × TVal)) (fuel : Nat) (kt vt : Ty) (tail : Nat)
    (acc res : List (Val × Val)), readEntries P S total fuel kt vt es tail acc = .ok res →
    knownDepthEntries S kt.deref vt.deref es ≤ fuel :=
  fun _ _ _ _ _ _ _ h => (reader_depth P S total).2.2.2.2.2 h

omit total in
theorem readMessage_depth (sid : Nat) (fs : List (Nat × TVal)) (trailing : Nat) (dest w : Val)
    (h : readMessage P S sid fs trailing dest = .ok w) :
    knownDepth S (.strct sid) (.strct fs) ≤ P.maxDepth :=
  (reader_depth P S _).2.1 h
end
end Frugal
