/-
  The model writes "run `o`; on success go on with `k`" as a three-way `match` at every step; the proofs
  restate each step once with `bind` / `mapv` and reason with these lemmas instead of splitting matches.
-/
import Frugal.Reader  -- `Outcome.mapv` is defined there
namespace Frugal

def Outcome.safe {α} (o : Outcome α) : Prop := o.isPanic = false

theorem mapv_id' {α} (o : Outcome α) : o.mapv (fun x => x) = o := by cases o <;> rfl
theorem mapv_ok {α β} (f : α → β) (a : α) : (Outcome.ok a).mapv f = .ok (f a) := rfl
theorem mapv_err {α β} (f : α → β) (e : ErrKind) : (Outcome.err e : Outcome α).mapv f = .err e := rfl
theorem mapv_mapv {α β γ} (o : Outcome α) (f : α → β) (g : β → γ) : (o.mapv f).mapv g = o.mapv (g ∘ f) := by
  cases o <;> rfl

namespace Outcome
variable {α β γ : Type}

theorem bind_eq_ok {o : Outcome α} {k : α → Outcome β} {b : β} :
    o.bind k = .ok b ↔ ∃ a, o = .ok a ∧ k a = .ok b := by
  cases o <;> simp [bind]

theorem mapv_eq_ok {f : α → β} {o : Outcome α} {b : β} :
    o.mapv f = .ok b ↔ ∃ a, o = .ok a ∧ b = f a := by
  cases o <;> simp [mapv, eq_comm]

theorem mapv_bind (o : Outcome α) (k : α → Outcome β) (g : β → γ) :
    (o.bind k).mapv g = o.bind fun a => (k a).mapv g := by cases o <;> rfl

theorem bind_mapv (o : Outcome α) (g : α → β) (k : β → Outcome γ) :
    (o.mapv g).bind k = o.bind fun a => k (g a) := by cases o <;> rfl

/-- two runs whose results agree under `f`, continued by steps that only look at results under `f` -/
theorem bind_congr_mapv {f : α → γ} {o o' : Outcome α} {k k' : α → Outcome β}
    (h : o.mapv f = o'.mapv f) (hk : ∀ a a', f a = f a' → k a = k' a') : o.bind k = o'.bind k' := by
  cases o with
  | ok a =>
    obtain ⟨a', rfl, e⟩ := mapv_eq_ok.1 h.symm
    exact hk a a' e
  | _ => cases o' <;> cases h <;> rfl

theorem safe_bind {o : Outcome α} {k : α → Outcome β} (ho : o.safe) (hk : ∀ a, (k a).safe) :
    (o.bind k).safe := by
  cases o with
  | ok a => exact hk a
  | err _ => rfl
  | panic _ => cases ho

theorem safe_mapv {o : Outcome α} {g : α → β} (ho : o.safe) : (o.mapv g).safe := by
  cases o with
  | ok _ | err _ => rfl
  | panic _ => cases ho

theorem safe_ite {c : Prop} [Decidable c] {a b : Outcome α} (ha : c → a.safe) (hb : ¬ c → b.safe) :
    (if c then a else b).safe := by
  by_cases h : c
  · rw [if_pos h]; exact ha h
  · rw [if_neg h]; exact hb h

/-- a guard whose other branch is not this success was passed -/
theorem ok_of_ite {c : Prop} [Decidable c] {a b : Outcome α} {x : α}
    (h : (if c then a else b) = .ok x) (ha : a ≠ .ok x) : ¬ c ∧ b = .ok x := by
  by_cases hc : c
  · rw [if_pos hc] at h; exact absurd h ha
  · rw [if_neg hc] at h; exact ⟨hc, h⟩

end Outcome

/-! The depth-limit error is the one outcome a larger budget can change. -/

def Outcome.isDepthErr {α} : Outcome α → Bool
  | .err .depth => true
  | _ => false

theorem isDepthErr_ok {α} (a : α) : (Outcome.ok a : Outcome α).isDepthErr = false := rfl
theorem isDepthErr_panic {α} (p : PanicKind) : (Outcome.panic p : Outcome α).isDepthErr = false := rfl
theorem isDepthErr_err {α} (k : ErrKind) : (Outcome.err k : Outcome α).isDepthErr = (k == .depth) := by
  cases k <;> rfl

theorem mapv_isDepthErr {α β} (o : Outcome α) (f : α → β) : (o.mapv f).isDepthErr = o.isDepthErr := by
  cases o with
  | ok _ | panic _ => rfl
  | err k => simp only [Outcome.mapv, isDepthErr_err]

theorem ite_isDepthErr {α} {c : Prop} [Decidable c] {a b : Outcome α} (ha : a.isDepthErr = false)
    (hb : b.isDepthErr = false) : (if c then a else b).isDepthErr = false := by
  by_cases hc : c
  · rw [if_pos hc]; exact ha
  · rw [if_neg hc]; exact hb

theorem bind_isDepthErr {α β} {o : Outcome α} {k : α → Outcome β} (ho : o.isDepthErr = false)
    (hk : ∀ a, (k a).isDepthErr = false) : (o.bind k).isDepthErr = false := by
  cases o with
  | ok a => exact hk a
  | err e => rw [isDepthErr_err] at ho; simpa only [Outcome.bind, isDepthErr_err] using ho
  | panic p => rfl

theorem bind_mono {α β} {o o' : Outcome α} {k k' : α → Outcome β} (ho : o.isDepthErr = false → o' = o)
    (hk : ∀ a, (k a).isDepthErr = false → k' a = k a) (h : (o.bind k).isDepthErr = false) :
    o'.bind k' = o.bind k := by
  cases o with
  | ok a => rw [ho rfl]; exact hk a h
  | err e => rw [ho (by simpa only [Outcome.bind, isDepthErr_err] using h)]; rfl
  | panic p => rw [ho rfl]; rfl

theorem mapv_mono {α β} {o o' : Outcome α} {f : α → β} (ho : o.isDepthErr = false → o' = o)
    (h : (o.mapv f).isDepthErr = false) : o'.mapv f = o.mapv f := by
  rw [ho (by rwa [mapv_isDepthErr] at h)]

theorem ite_mono {α} {c : Prop} [Decidable c] {a b b' : Outcome α} (hb : b.isDepthErr = false → b' = b)
    (h : (if c then a else b).isDepthErr = false) : (if c then a else b') = if c then a else b := by
  by_cases hc : c
  · rw [if_pos hc, if_pos hc]
  · rw [if_neg hc] at h ⊢; rw [if_neg hc, hb h]

end Frugal
