/- The resolver model is a chain of partial steps (`Option`); each function gets one inversion lemma saying
   what a successful run went through, and the rest is read off those. -/
import Frugal.Tags
namespace Frugal

theorem parseSliceBody_some {inner : List Char → Option (Ty × List Char)} {d r : List Char} {t : Ty}
    (h : parseSliceBody inner d = some (t, r)) :
    ∃ tok r0 r1 r2 et, readToken d false = some (tok, r0) ∧ expectTok r0 '<' = some r1 ∧
      inner r1 = some (et, r2) ∧ expectTok r2 '>' = some r ∧ isValueType et = true ∧
      ((tok = "set".toList ∧ t = .list true et) ∨ (tok = "list".toList ∧ t = .list false et)) := by
  unfold parseSliceBody at h
  split at h
  · cases h
  next tok r0 htok =>
  dsimp only at h
  split at h
  · cases h
  next isSet hset =>
  split at h
  · cases h
  next r1 h1 =>
  split at h
  · cases h
  next et r2 hin =>
  split at h
  · cases h
  next r3 h3 =>
  split at h
  case isFalse => cases h
  next hv =>
  cases h
  refine ⟨tok, r0, r1, r2, et, htok, h1, hin, h3, hv, ?_⟩
  split at hset
  · next hs =>
    cases hset
    exact .inl ⟨eq_of_beq hs, rfl⟩
  · split at hset
    · next hl =>
      cases hset
      exact .inr ⟨eq_of_beq hl, rfl⟩
    · cases hset

theorem parseMapBody_some {hasDef : Bool} {pk pv : List Char → Option (Ty × List Char)} {r0 r : List Char}
    {t : Ty} (h : parseMapBody hasDef pk pv r0 = some (t, r)) :
    ∃ r1 kt r2 r3 vt r4, (if hasDef then expectTok r0 '<' else some r0) = some r1 ∧
      pk r1 = some (kt, r2) ∧ isKeyType kt = true ∧
      (if hasDef then expectTok r2 ':' else some r2) = some r3 ∧ pv r3 = some (vt, r4) ∧
      (if hasDef then expectTok r4 '>' else some r4) = some r ∧ isValueType vt = true ∧ t = .map kt vt := by
  unfold parseMapBody at h
  dsimp only at h
  split at h
  · cases h
  next r1 h1 =>
  split at h
  · cases h
  next kt r2 hk =>
  split at h
  · cases h
  next hkey =>
  split at h
  · cases h
  next r3 h3 =>
  split at h
  · cases h
  next vt r4 hv =>
  split at h
  · cases h
  next r5 h5 =>
  split at h
  case isFalse => cases h
  next hval =>
  cases h
  exact ⟨r1, kt, r2, r3, vt, r4, h1, hk, by simpa using hkey, h3, hv, h5, hval, rfl⟩

theorem doParseType_slice_some (e : GoTy) (hasDef : Bool) (d : List Char) (allow : Bool) (t : Ty) (r : List Char)
    (he : e ≠ .prim .uint8 "uint8") (h : doParseType (.slice e) hasDef d allow = some (t, r)) :
    hasDef = true ∧ ∃ tok r0 r1 r2 et, readToken d false = some (tok, r0) ∧ expectTok r0 '<' = some r1 ∧
      doParseType e hasDef r1 true = some (et, r2) ∧ expectTok r2 '>' = some r ∧ isValueType et = true ∧
      ((tok = "set".toList ∧ t = .list true et) ∨ (tok = "list".toList ∧ t = .list false et)) := by
  unfold doParseType at h
  rw [if_neg (by simpa using he)] at h
  split at h
  · cases h
  next hd => exact ⟨by simpa using hd, parseSliceBody_some h⟩

theorem doParseType_map_some (k v : GoTy) (hasDef : Bool) (d : List Char) (allow : Bool) (t : Ty) (r : List Char)
    (h : doParseType (.map k v) hasDef d allow = some (t, r)) :
    ∃ kt vt, t = .map kt vt ∧ isKeyType kt = true ∧ isValueType vt = true ∧
      ∃ r1 r2 r3 r4, doParseType k hasDef r1 true = some (kt, r2) ∧ doParseType v hasDef r3 true = some (vt, r4) := by
  unfold doParseType at h
  dsimp only at h
  split at h
  · cases h
  · obtain ⟨r1, kt, r2, r3, vt, r4, _, hk, hkey, _, hv, _, hval, rfl⟩ := parseMapBody_some h
    exact ⟨kt, vt, rfl, hkey, hval, r1, r2, r3, r4, hk, hv⟩

theorem parseType_some {vt : GoTy} {d : List Char} {t : Ty} (h : parseType vt d = some t) :
    ∃ r sp, doParseType vt (!d.isEmpty) d true = some (t, r) ∧ readToken r true = some ([], sp) := by
  unfold parseType at h
  split at h
  · cases h
  next t' r hp =>
  split at h
  · next sp hr =>
    cases h
    exact ⟨r, sp, hp, hr⟩
  · cases h

theorem resolveField_some {hasInit : Bool} {gf : GoField} {ft : List (List Char)} {f : Field}
    (h : resolveField hasInit gf ft = some f) :
    ∃ idS r id req ty nocopy, ft = idS :: r ∧ parseU16 idS = some id ∧
      parseReq (r.headD dfltWord) = some req ∧ parseType gf.ty (r.tail.headD []) = some ty ∧
      ptrRuleOk ty req = true ∧ parseOpts ty r.tail.tail false = some nocopy ∧
      f = mkField hasInit gf id req ty nocopy := by
  unfold resolveField at h
  split at h
  · cases h
  next idS r =>
  split at h
  · cases h
  next id hid =>
  split at h
  · cases h
  next req hreq =>
  split at h
  · cases h
  next ty hty =>
  split at h
  · cases h
  next hptr =>
  split at h
  · cases h
  next nocopy hopts =>
  cases h
  exact ⟨idS, r, id, req, ty, nocopy, rfl, hid, hreq, hty, by simpa using hptr, hopts, rfl⟩

/-- the rejection classes of C13 about a field's tag are the instances -/
theorem resolveField_none {hasInit : Bool} {gf : GoField} {idS : List Char} {r : List (List Char)}
    (h : parseU16 idS = none ∨ parseReq (r.headD dfltWord) = none ∨
      parseType gf.ty (r.tail.headD []) = none ∨ ∀ ty, parseOpts ty r.tail.tail false = none) :
    resolveField hasInit gf (idS :: r) = none := by
  cases hf : resolveField hasInit gf (idS :: r) with
  | none => rfl
  | some f =>
    obtain ⟨_, _, _, _, _, _, hft, hid, hreq, hty, _, hopts, _⟩ := resolveField_some hf
    cases hft
    rcases h with h | h | h | h
    · rw [h] at hid; cases hid
    · rw [h] at hreq; cases hreq
    · rw [h] at hty; cases hty
    · rw [h] at hopts; cases hopts

-- Trap: hypotheses that hold different string literals are used by name.  A tactic that compares hypotheses up
-- to definitional equality (`contradiction`, `assumption`, `simp_all`) unfolds
-- `"default".toList =?= "required".toList`, which is very slow.
theorem parseReq_eq_none {s : List Char} : parseReq s = none ↔
    s ≠ "default".toList ∧ s ≠ "required".toList ∧ s ≠ "optional".toList := by
  unfold parseReq
  split
  · next h => exact ⟨nofun, fun h' => absurd (eq_of_beq h) h'.1⟩
  split
  · next h => exact ⟨nofun, fun h' => absurd (eq_of_beq h) h'.2.1⟩
  split
  · next h => exact ⟨nofun, fun h' => absurd (eq_of_beq h) h'.2.2⟩
  next h1 h2 h3 =>
  exact ⟨fun _ => ⟨fun e => h1 (beq_iff_eq.2 e), fun e => h2 (beq_iff_eq.2 e), fun e => h3 (beq_iff_eq.2 e)⟩,
    fun _ => rfl⟩

theorem parseU16_eq_none {s : List Char} : parseU16 s = none ↔
    s = [] ∨ s.all Char.isDigit = false ∨ 65536 ≤ s.foldl (fun a c => a * 10 + (c.toNat - 48)) 0 := by
  unfold parseU16
  split
  · next h => simp [List.isEmpty_iff.1 h]
  next h =>
  have hne : s ≠ [] := fun e => h (List.isEmpty_iff.2 e)
  split
  · next hd =>
    simp only [hne, hd, false_or]
    split <;> simp <;> omega
  · next hd => simp [hd]

theorem parseU16_lt {s : List Char} {n : Nat} (h : parseU16 s = some n) : n < 65536 := by
  unfold parseU16 at h
  split at h
  · cases h
  split at h
  · dsimp only at h
    split at h
    · cases h; assumption
    · cases h
  · cases h

theorem parseOpts_spec (t : Ty) : ∀ (os : List (List Char)) (acc res : Bool),
    parseOpts t os acc = some res → res = true → acc = true ∨ t.isStringWire = true
  | [], _, _, h, hr => by
    simp only [parseOpts, Option.some.injEq] at h
    exact .inl (h ▸ hr)
  | _ :: _, _, _, h, _ => by
    unfold parseOpts at h
    split at h
    · split at h
      · cases h
      · next hs => exact .inr (by simpa using hs)
    · cases h

theorem isValueType_elem {t : Ty} (h : isValueType t = true) : (!t.isPtr || t.isStructPtr) = true := by
  cases t with
  | ptr e =>
    cases e with
    | strct _ => rfl
    | _ => cases h
  | _ => rfl

/-- `ih` is what `parseType_ok` says of the pointee: a hypothesis, because `parseType_ok` uses this lemma -/
theorem doParseType_ptr_some {e : GoTy} {hasDef allow : Bool} {d r : List Char} {t : Ty}
    (ih : ∀ t' r', doParseType e hasDef d false = some (t', r') → t'.isPtr = false)
    (h : doParseType (.ptr e) hasDef d allow = some (t, r)) :
    allow = true ∧ ∃ t', t = .ptr t' ∧ doParseType e hasDef d false = some (t', r) ∧
      ((∃ k, t' = .base k) ∨ (∃ s, t' = .strct s)) := by
  unfold doParseType at h
  split at h
  · cases h
  next hallow =>
  split at h
  · cases h
  next t' r' hin =>
  refine ⟨by simpa using hallow, ?_⟩
  cases t' with
  | base k => cases h; exact ⟨_, rfl, hin, .inl ⟨_, rfl⟩⟩
  | strct s => cases h; exact ⟨_, rfl, hin, .inr ⟨_, rfl⟩⟩
  | ptr x => cases ih _ _ hin
  | _ => cases h

theorem parseType_ok : ∀ (vt : GoTy) (hasDef : Bool) (d : List Char) (allow : Bool) (ty : Ty) (r : List Char),
    doParseType vt hasDef d allow = some (ty, r) → ty.ok = true ∧ (allow = false → ty.isPtr = false)
  | .ptr e, hasDef, d, allow, ty, r, h => by
    obtain ⟨ha, t, rfl, _, hs⟩ := doParseType_ptr_some (fun t' r' h' => (parseType_ok e hasDef d false t' r' h').2 rfl) h
    have hna : allow = false → (Ty.ptr t).isPtr = false := fun h' => by rw [ha] at h'; cases h'
    rcases hs with ⟨k, rfl⟩ | ⟨s, rfl⟩ <;> exact ⟨rfl, hna⟩
  | .prim k nm, hasDef, d, allow, ty, r, h => by
    unfold doParseType at h
    split at h
    · cases h
    next tag _ =>
    have hb : (baseOfTag tag).ok = true ∧ (baseOfTag tag).isPtr = false := by cases tag <;> exact ⟨rfl, rfl⟩
    split at h
    · split at h
      · cases h
      · cases h
        split
        · exact ⟨rfl, fun _ => rfl⟩
        · exact ⟨hb.1, fun _ => hb.2⟩
    · cases h
      exact ⟨hb.1, fun _ => hb.2⟩
  | .arr _ _, _, _, _, _, _, h => by
    unfold doParseType at h
    cases h
  | .strct nm sid, hasDef, d, allow, ty, r, h => by
    unfold doParseType at h
    split at h
    · split at h
      · cases h
      · cases h; exact ⟨rfl, fun _ => rfl⟩
    · cases h; exact ⟨rfl, fun _ => rfl⟩
  | .slice e, hasDef, d, allow, ty, r, h => by
    by_cases he : e = GoTy.prim .uint8 "uint8"
    · unfold doParseType at h
      rw [if_pos (by simpa using he)] at h
      split at h
      · split at h
        · cases h
        · cases h; exact ⟨rfl, fun _ => rfl⟩
      · cases h; exact ⟨rfl, fun _ => rfl⟩
    · obtain ⟨_, _, _, r1, r2, et, _, _, hin, _, hv, ht⟩ := doParseType_slice_some e hasDef d allow ty r he h
      have hok := (parseType_ok e hasDef r1 true et r2 hin).1
      have hv := isValueType_elem hv
      rcases ht with ⟨_, rfl⟩ | ⟨_, rfl⟩ <;>
        exact ⟨by simp only [Ty.ok, hok, hv, Bool.and_self], fun _ => rfl⟩
  | .map k v, hasDef, d, allow, ty, r, h => by
    obtain ⟨kt, vt, rfl, hkey, hval, r1, r2, r3, r4, hk, hv⟩ := doParseType_map_some k v hasDef d allow ty r h
    have h1 := (parseType_ok k hasDef r1 true kt r2 hk).1
    have h2 := (parseType_ok v hasDef r3 true vt r4 hv).1
    refine ⟨?_, fun _ => rfl⟩
    simp only [Ty.ok, h1, h2, isValueType_elem hval, Bool.true_and]
    -- what is left is the key test of `Ty.ok`, which is `isKeyType` case by case
    exact hkey

/-- "only optional fields or structs can be pointers"; `nocopy` only on string-wire types -/
theorem resolveField_rules {hasInit : Bool} {gf : GoField} {ft : List (List Char)} {f : Field}
    (h : resolveField hasInit gf ft = some f) :
    (f.ty.isPtr = false ∨ f.ty.isStructPtr = true ∨ f.req = .optional) ∧
    (f.nocopy = false ∨ f.ty.tt = .string) := by
  obtain ⟨_, _, _, req, ty, nocopy, rfl, _, _, _, hptr, hopts, rfl⟩ := resolveField_some h
  refine ⟨?_, ?_⟩
  · show ty.isPtr = false ∨ ty.isStructPtr = true ∨ req = .optional
    unfold ptrRuleOk at hptr
    split at hptr
    · exact .inr (.inl rfl)
    · exact .inr (.inr (by simpa using hptr))
    · next h1 h2 => cases ty <;> simp_all [Ty.isPtr]
  · show nocopy = false ∨ ty.tt = .string
    cases hn : nocopy with
    | false => exact .inl rfl
    | true =>
      exact .inr (by simpa [Ty.isStringWire] using (parseOpts_spec ty _ false nocopy hopts hn).resolve_left nofun)

theorem resolveField_ok (hasInit : Bool) (gf : GoField) (ft : List (List Char)) (f : Field)
    (h : resolveField hasInit gf ft = some f) : f.ok = true := by
  obtain ⟨hpr, hnc⟩ := resolveField_rules h
  obtain ⟨_, _, _, req, ty, nocopy, rfl, hid, _, hty, _, _, rfl⟩ := resolveField_some h
  obtain ⟨_, _, hp, _⟩ := parseType_some hty
  have hpr : ty.isPtr = false ∨ ty.isStructPtr = true ∨ req = .optional := hpr
  have hnc : nocopy = false ∨ ty.tt = .string := hnc
  simp only [Field.ok, mkField, (parseType_ok _ _ _ _ _ _ hp).1, Bool.true_and, Bool.and_eq_true,
    Bool.or_eq_true, Bool.not_eq_true', beq_iff_eq]
  refine ⟨⟨?_, hnc⟩, decide_eq_true (parseU16_lt hid)⟩
  rcases hpr with h | h | h <;> simp [h]

theorem resolveFieldsAux_spec (hasInit : Bool) (gfs : List GoField) (ids : List Nat) (fs : List Field)
    (h : resolveFieldsAux hasInit gfs ids = some fs) :
    (∀ f ∈ fs, ∃ gf ∈ gfs, ∃ ft, lookupStructTag gf.tag = some ft ∧ resolveField hasInit gf ft = some f) ∧
    (fs.map (·.id)).Nodup ∧ ∀ f ∈ fs, f.id ∉ ids := by
  fun_induction resolveFieldsAux hasInit gfs ids generalizing fs with
  | case1 =>  -- no Go field left
    cases h
    simp
  | case2 gf r ids _ ih | case3 gf r ids _ _ ih =>  -- `gf` embedded or unexported | untagged: skipped
    obtain ⟨h1, h2⟩ := ih fs h
    exact ⟨fun f hf => (h1 f hf).imp fun g hg => ⟨List.mem_cons_of_mem _ hg.1, hg.2⟩, h2⟩
  | case4 | case5 | case6 =>  -- `gf` does not resolve | its id is taken | a later field fails
    cases h
  | case7 gf r ids _ ft hft f hf hnot fs' hfs' ih =>  -- `gf` resolves to `f`, the rest to `fs'`
    cases h
    obtain ⟨h1, h2, h3⟩ := ih fs' hfs'
    refine ⟨?_, ?_, ?_⟩
    · exact List.forall_mem_cons.2 ⟨⟨gf, List.mem_cons_self .., ft, hft, hf⟩,
        fun g hg => (h1 g hg).imp fun g' hg' => ⟨List.mem_cons_of_mem _ hg'.1, hg'.2⟩⟩
    · rw [List.map_cons, List.nodup_cons]
      refine ⟨fun hm => ?_, h2⟩
      obtain ⟨g, hg, e⟩ := List.mem_map.1 hm
      exact h3 g hg (e ▸ List.mem_cons_self ..)
    · exact List.forall_mem_cons.2 ⟨by simpa using hnot, fun g hg hc => h3 g hg (List.mem_cons_of_mem _ hc)⟩

theorem mem_insertById {f g : Field} : ∀ {l : List Field}, g ∈ insertById f l ↔ g = f ∨ g ∈ l
  | [] => by simp [insertById]
  | x :: r => by
    unfold insertById
    split
    · simp
    · simp [mem_insertById (l := r), or_left_comm]

theorem mem_sortById {g : Field} : ∀ {l : List Field}, g ∈ sortById l ↔ g ∈ l
  | [] => Iff.rfl
  | f :: r => by
    show g ∈ insertById f (sortById r) ↔ _
    simp [mem_insertById, mem_sortById (l := r)]

/-- what the resolver accepts satisfies the hypothesis of the codec theorems -/
theorem resolveStruct_ok (gs : GoStruct) (sd : SDesc) (h : resolveStruct gs = some sd) : sd.ok = true := by
  unfold resolveStruct at h
  split at h
  · cases h
  next fs hfs =>
  cases h
  simp only [SDesc.ok, List.all_eq_true]
  intro f hf
  obtain ⟨gf, _, ft, _, hr⟩ := (resolveFieldsAux_spec _ _ _ _ hfs).1 f (mem_sortById.1 hf)
  exact resolveField_ok gs.hasInit gf ft f hr

theorem schemaOf_ok (U : Universe) : (schemaOf U).ok = true := by
  simp only [schemaOf, resolveAll, Schema.ok, List.all_eq_true, List.mem_map]
  rintro sd ⟨o, ⟨gs, _, rfl⟩, rfl⟩
  cases h : resolveStruct gs with
  | none => simp [SDesc.ok]
  | some sd' => simpa using resolveStruct_ok gs sd' h

end Frugal
