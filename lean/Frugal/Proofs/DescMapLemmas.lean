/- One invariant, `SInv`, of every reachable state of the interleaving semantics; each step of a thread is
   `SInv.move` at the thread's new program point. -/
import Frugal.DescMap
namespace Frugal

def inCrit : PC → Bool
  | .locked | .rechecked | .built _ | .stored _ => true
  | _ => false

/-- every published (key, descriptor) pair holds the descriptor the sequential build gives for the key -/
def agrees (descOf : Nat → Nat) (l : List (Nat × Nat)) : Prop := ∀ k d, (k, d) ∈ l → d = descOf k

theorem lookupFirst_mem {key d : Nat} {l : List (Nat × Nat)} (h : lookupFirst key l = some d) : (key, d) ∈ l := by
  induction l with
  | nil => simp [lookupFirst] at h
  | cons a t ih =>
    obtain ⟨k, x⟩ := a
    simp only [lookupFirst] at h
    split at h
    · next e =>
      cases h
      cases e
      exact List.mem_cons_self ..
    · exact List.mem_cons_of_mem _ (ih h)

/-- what a thread at a program point has computed is right: the descriptor it built, the value it returned -/
def pcGood (descOf : Nat → Nat) (key : Nat) (ret : Option Nat) : PC → Prop
  | .built d => d = descOf key
  | .stored d => d = descOf key
  | .done => ret = some (descOf key)
  | _ => True

structure SInv (descOf : Nat → Nat) (key : Nat → Nat) (s : CSt) : Prop where
  keyFix : s.key = key
  slotOK : agrees descOf s.slot
  snapOK : ∀ t, agrees descOf (s.snap t)
  crit : ∀ t, inCrit (s.pc t) = true ↔ s.owner = some t
  good : ∀ t, pcGood descOf (key t) (s.ret t) (s.pc t)

theorem cinit_inv (descOf : Nat → Nat) (key : Nat → Nat) : SInv descOf key (cinit key) := by
  refine ⟨rfl, ?_, ?_, ?_, ?_⟩
  · intro k d h; simp [cinit] at h
  · intro t k d h; simp [cinit] at h
  · intro t; simp [cinit, inCrit]
  · intro t; simp [cinit, pcGood]

@[simp] theorem upd_self {α} (f : Nat → α) (t : Nat) : upd f t (f t) = f := by
  funext x
  unfold upd
  split <;> simp [*]

/-- thread `t` moves to `pc'` with return value `r'`, the mutex owner becomes `o'`, the published list and
    `t`'s snapshot are replaced by lists that still agree -/
theorem SInv.move {descOf : Nat → Nat} {key : Nat → Nat} {s : CSt} (h : SInv descOf key s) (t : Nat)
    (pc' : PC) (r' : Option Nat) (o' : Option Nat) (slot' snap' : List (Nat × Nat))
    (hslot : agrees descOf slot') (hsnap : agrees descOf snap')
    (hgood : pcGood descOf (key t) r' pc')
    (hcrit : inCrit pc' = true ↔ o' = some t)
    (hothers : ∀ u, u ≠ t → (s.owner = some u ↔ o' = some u)) :
    SInv descOf key { s with slot := slot', owner := o', pc := upd s.pc t pc', snap := upd s.snap t snap',
                             ret := upd s.ret t r' } := by
  refine ⟨h.keyFix, hslot, ?_, ?_, ?_⟩
  · intro u; by_cases e : u = t
    · simp [upd, e]; exact hsnap
    · simp [upd, e]; exact h.snapOK u
  · intro u; by_cases e : u = t
    · subst e; simp [upd]; exact hcrit
    · simp only [upd, e, ↓reduceIte]; rw [h.crit u]; exact hothers u e
  · intro u; by_cases e : u = t
    · subst e; simp [upd]; exact hgood
    · simp only [upd, e, ↓reduceIte]; exact h.good u

theorem agrees_append {descOf : Nat → Nat} {l : List (Nat × Nat)} {k d : Nat}
    (h : agrees descOf l) (e : d = descOf k) : agrees descOf (l ++ [(k, d)]) := by
  intro k' d' hm
  simp only [List.mem_append, List.mem_singleton, Prod.mk.injEq] at hm
  rcases hm with hm | ⟨rfl, rfl⟩
  · exact h _ _ hm
  · exact e

theorem cstep_inv {descOf : Nat → Nat} {key : Nat → Nat} {s s' : CSt} (h : SInv descOf key s) (t : Nat)
    (hs : cstep descOf s t = some s') : SInv descOf key s' := by
  have hk : s.key t = key t := by rw [h.keyFix]
  have hc := h.crit t
  have hg := h.good t
  -- every step is `SInv.move` at the new program point; what a step leaves alone is put back by `upd_self`
  have fr := h.move t
  unfold cstep at hs
  split at hs
  all_goals
    rename_i hpc
    rw [hpc] at hc hg
    simp only [inCrit, pcGood, true_iff, false_iff, Bool.false_eq_true] at hc hg
  · -- start
    cases hs
    simpa using fr .loaded (s.ret t) s.owner s.slot s.slot h.slotOK h.slotOK trivial
      (by simpa [inCrit] using hc) fun u _ => Iff.rfl
  · -- loaded
    split at hs
    · next d hl =>
      cases hs
      have hd : d = descOf (key t) := hk ▸ h.snapOK t _ _ (lookupFirst_mem hl)
      simpa using fr .done (some d) s.owner s.slot (s.snap t) h.slotOK (h.snapOK t) (congrArg some hd)
        (by simpa [inCrit] using hc) fun u _ => Iff.rfl
    · cases hs
      simpa using fr .wantLock (s.ret t) s.owner s.slot (s.snap t) h.slotOK (h.snapOK t) trivial
        (by simpa [inCrit] using hc) fun u _ => Iff.rfl
  · -- wantLock
    split at hs
    · next ho =>
      cases hs
      simpa using fr .locked (s.ret t) (some t) s.slot (s.snap t) h.slotOK (h.snapOK t) trivial
        (by simp [inCrit]) fun u hu => by rw [ho]; simp; exact fun e => hu e.symm
    · cases hs
  · -- locked
    split at hs
    · next d hl =>
      cases hs
      have hd : d = descOf (key t) := hk ▸ h.slotOK _ _ (lookupFirst_mem hl)
      simpa using fr .done (some d) none s.slot (s.snap t) h.slotOK (h.snapOK t) (congrArg some hd)
        (by simp [inCrit]) fun u hu => by rw [hc]; simp; exact fun e => hu e.symm
    · cases hs
      simpa using fr .rechecked (s.ret t) s.owner s.slot (s.snap t) h.slotOK (h.snapOK t) trivial
        ⟨fun _ => hc, fun _ => rfl⟩ fun u _ => Iff.rfl
  · -- rechecked
    cases hs
    simpa using fr (.built (descOf (s.key t))) (s.ret t) s.owner s.slot (s.snap t) h.slotOK (h.snapOK t)
      (congrArg descOf hk) ⟨fun _ => hc, fun _ => rfl⟩ fun u _ => Iff.rfl
  · -- built
    next d =>
    cases hs
    simpa using fr (.stored d) (s.ret t) s.owner (s.slot ++ [(s.key t, d)]) (s.snap t)
      (agrees_append h.slotOK (hk ▸ hg)) (h.snapOK t) hg ⟨fun _ => hc, fun _ => rfl⟩
      fun u _ => Iff.rfl
  · -- stored
    next d =>
    cases hs
    simpa using fr .done (some d) none s.slot (s.snap t) h.slotOK (h.snapOK t) (congrArg some hg)
      (by simp [inCrit]) fun u hu => by rw [hc]; simp; exact fun e => hu e.symm
  · cases hs

theorem crun_inv {descOf : Nat → Nat} {key : Nat → Nat} (sched : List Nat) :
    ∀ s, SInv descOf key s → SInv descOf key (crun descOf s sched) := by
  induction sched with
  | nil => intro s h; exact h
  | cons t r ih =>
    intro s h
    simp only [crun]
    split
    · next s' hs => exact ih s' (cstep_inv h t hs)
    · exact ih s h

/-- under every schedule, a call that has returned has returned the descriptor of its own key -/
theorem agreement (descOf : Nat → Nat) (key : Nat → Nat) (sched : List Nat) (t : Nat)
    (hd : (crun descOf (cinit key) sched).pc t = .done) :
    (crun descOf (cinit key) sched).ret t = some (descOf (key t)) := by
  have h := crun_inv (descOf := descOf) sched (cinit key) (cinit_inv descOf key)
  have := h.good t
  rwa [hd] at this

/-- no deadlock: while some thread has not finished, some thread can take a step -/
theorem progress {descOf : Nat → Nat} {key : Nat → Nat} {s : CSt} (h : SInv descOf key s) (t : Nat)
    (hn : s.pc t ≠ .done) : ∃ u, (cstep descOf s u).isSome = true := by
  by_cases hw : s.pc t = .wantLock
  · cases ho : s.owner with
    | none => exact ⟨t, by simp [cstep, hw, ho]⟩
    | some o =>
      -- the owner is inside the critical section and every such point is enabled
      have hc := (h.crit o).mpr ho
      refine ⟨o, ?_⟩
      unfold cstep
      cases hp : s.pc o <;> simp [hp, inCrit] at hc ⊢
      · split <;> simp
  · refine ⟨t, ?_⟩
    unfold cstep
    cases hp : s.pc t <;> simp [hp] at hn hw ⊢
    · split <;> simp
    · split <;> simp

end Frugal
