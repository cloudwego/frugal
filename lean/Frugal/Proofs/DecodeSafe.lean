import Frugal.Proofs.DecodeEqns
namespace Frugal
open Outcome

theorem decodeFixed_of_len (t : TT) (b : Bytes) (hf : specFixed t > 0) (hl : specFixed t ≤ b.length) :
    ∃ v r, decodeFixed t b = .ok (v, r) ∧ r.length + specFixed t = b.length := by
  obtain ⟨n, r, e, hr⟩ := rdBE_some hl
  exact ⟨_, r, by rw [decodeFixed_eq t hf, e], hr⟩

theorem decodeStr_safe (isBin nocopy : Bool) (total : Nat) (b : Bytes) :
    (decodeStr isBin nocopy total b).safe := by
  unfold decodeStr
  split
  · rfl
  · exact safe_ite (fun _ => rfl) fun _ => safe_ite (fun _ => rfl) fun _ => safe_ite (fun _ => rfl) fun _ => rfl

section
variable {P : Params} (hP : P.valid = true) (S : Schema)
include hP

theorem decodeSlot_guarded_safe {dt : Ty → Bytes → Val → Outcome (Val × Bytes)} (hdt : ∀ t b d, (dt t b d).safe)
    (t : Ty) (b : Bytes) (slot : Val) : (decodeSlot P S dt true t b slot).safe := by
  rw [decodeSlot_eq, fixed_eq hP]
  refine safe_ite (fun hf => safe_ite (fun _ => rfl) fun hl => ?_) fun _ => safe_mapv (hdt ..)
  obtain ⟨v, r, e, _⟩ := decodeFixed_of_len t.tt b hf (by simpa using hl)
  rw [e]
  rfl

omit hP in
theorem listLoop_safe (de : Bytes → Outcome (Val × Bytes)) (h : ∀ b, (de b).safe) :
    ∀ n b, (listLoop de n b).safe
  | 0, _ => rfl
  | n + 1, b => by
    rw [listLoop_succ]
    exact safe_bind (h b) fun p => safe_mapv (listLoop_safe de h n p.2)

/-- list of fixed-size elements: the reads are unguarded, the count check covers them -/
theorem listLoop_fixed_safe (dt : Ty → Bytes → Val → Outcome (Val × Bytes)) (et : Ty) (z : Val)
    (hf : specFixed et.tt > 0) :
    ∀ n b, n * specFixed et.tt ≤ b.length → (listLoop (fun bb => decodeSlot P S dt false et bb z) n b).safe
  | 0, _, _ => rfl
  | n + 1, b, hl => by
    rw [Nat.succ_mul] at hl
    obtain ⟨v, r, e, hr⟩ := decodeFixed_of_len et.tt b hf (by omega)
    rw [listLoop_succ, decodeSlot_eq, fixed_eq hP, if_pos hf, if_neg (by simp), e]
    exact safe_mapv (listLoop_fixed_safe dt et z hf n r (by omega))

omit hP in
theorem mapLoop_safe (kt : Ty) (dk dv : Bytes → Outcome (Val × Bytes))
    (hk : ∀ b, (dk b).safe) (hv : ∀ b, (dv b).safe) :
    ∀ n b acc, (mapLoop kt dk dv n b acc).safe
  | 0, _, _ => rfl
  | n + 1, b, acc => by
    rw [mapLoop_succ]
    exact safe_bind (hk b) fun p => safe_bind (hv p.2) fun q => mapLoop_safe kt dk dv hk hv n q.2 _

variable {dt : Ty → Bytes → Val → Outcome (Val × Bytes)} (hdt : ∀ t b d, (dt t b d).safe)
include hdt

theorem decodeField_safe (total : Nat) (f : Field) (b : Bytes) (slot : Val) :
    (decodeField P S total dt f b slot).safe := by
  rw [decodeField_eq]
  exact safe_ite (fun _ => safe_mapv (decodeStr_safe ..)) fun _ => decodeSlot_guarded_safe hP S hdt f.ty b slot

omit hdt in
theorem skipUnknown_safe (t : Nat) (b : Bytes) : (skipUnknown P t b).safe := by
  unfold skipUnknown
  cases skipM P t b with
  | ok _ | err _ => rfl
  | panic _ => rw [(skip_parts hP).1]; rfl

theorem fieldLoop_safe (sd : SDesc) (total : Nat) : ∀ cnt b st, (fieldLoop P S sd total dt cnt b st).safe
  | 0, _, _ => rfl
  | _ + 1, [], _ => rfl
  | cnt + 1, tp :: r, st => by
    rw [fieldLoop_succ]
    refine safe_ite (fun _ => rfl) fun _ => ?_
    split
    · rfl
    split
    · exact safe_bind (skipUnknown_safe hP ..) fun n => fieldLoop_safe sd total cnt _ _
    · exact safe_bind (decodeField_safe hP S hdt total ..) fun p => fieldLoop_safe sd total cnt _ _

theorem decodeMap_safe (kt vt : Ty) (b : Bytes) : (decodeMap P S dt kt vt b).safe := by
  unfold decodeMap
  split
  · rfl
  split
  · rfl
  split
  · rfl
  rename_i l r2 _
  refine safe_ite (fun _ => rfl) fun _ => safe_ite (fun _ => rfl) fun _ => safe_ite (fun _ => rfl) fun _ => ?_
  rw [decodeMapBody_eq, if_neg (by have := minWire_pos hP kt; omega)]
  exact safe_ite (fun _ => rfl) fun _ => safe_mapv (mapLoop_safe kt _ _
    (fun bb => decodeSlot_guarded_safe hP S hdt kt bb _) (fun bb => decodeSlot_guarded_safe hP S hdt vt bb _) l r2 [])

theorem decodeList_safe (et : Ty) (b : Bytes) : (decodeList P S dt et b).safe := by
  unfold decodeList
  split
  · rfl
  split
  · rfl
  rename_i l r1 _
  refine safe_ite (fun _ => rfl) fun _ => safe_ite (fun _ => rfl) fun _ => safe_ite (fun _ => rfl) fun _ => ?_
  rw [decodeListBody_eq]
  refine safe_ite (fun _ => rfl) fun _ => ?_
  rw [if_neg (by have := minWire_pos hP et; omega)]
  refine safe_ite (fun _ => rfl) fun hcnt => safe_mapv ?_
  by_cases hfe : specFixed et.tt > 0
  · apply listLoop_fixed_safe hP S _ et _ hfe
    rw [show P.minWireOf et.wire = specFixed et.tt from minWire_fixed_tt hP et.tt hfe] at hcnt
    exact (Nat.le_div_iff_mul_le hfe).mp (by omega)
  · refine listLoop_safe _ (fun bb => ?_) l r1
    rw [decodeSlot_eq, fixed_eq hP, if_neg hfe]
    exact safe_mapv (hdt ..)

end

section
variable {P : Params} (hP : P.valid = true) (S : Schema) (total : Nat)
include hP

theorem decodeStruct_safe_step (fuel : Nat) (hdt : ∀ t b d, (decodeType P S total fuel t b d).safe)
    (sid : Nat) (b : Bytes) (dest : Val) : (decodeStruct P S total (fuel + 1) sid b dest).safe := by
  cases dest with
  | st fs h =>
    rw [decodeStruct_st]
    refine safe_bind (fieldLoop_safe hP S hdt ..) fun p => ?_
    split <;> rfl
  | _ => rw [decodeStruct_nonst _ _ _ _ _ _ _ (by intro _ _ h; cases h)]; rfl

/-- `decodeType (fuel + 1)` and `decodeStruct (fuel + 1)` call only level `fuel`: plain induction -/
theorem decode_safe_all : ∀ fuel : Nat,
    (∀ t b d, (decodeType P S total fuel t b d).safe) ∧ (∀ sid b d, (decodeStruct P S total fuel sid b d).safe)
  | 0 => ⟨fun t b d => by rw [decodeType_zero]; rfl, fun sid b d => by rw [decodeStruct_zero]; rfl⟩
  | fuel + 1 => by
    obtain ⟨hdt, hst⟩ := decode_safe_all fuel
    refine ⟨fun t b d => ?_, decodeStruct_safe_step hP S total fuel hdt⟩
    rw [decodeType_succ, fixed_eq hP]
    refine safe_ite (fun hf => safe_ite (fun _ => rfl) fun hl => ?_) fun _ => ?_
    · obtain ⟨v, r, e, _⟩ := decodeFixed_of_len t.tt b hf (by omega)
      rw [e]
      rfl
    cases t with
    | base k => exact safe_ite (fun _ => decodeStr_safe ..) fun _ => rfl
    | map kt vt => exact decodeMap_safe hP S hdt kt vt b
    | list s et => exact decodeList_safe hP S hdt et b
    | strct sid => exact hst ..
    | ptr e => rfl

theorem decodeType_safe (fuel : Nat) (t : Ty) (b : Bytes) (dest : Val) :
    (decodeType P S total fuel t b dest).safe :=
  (decode_safe_all hP S total fuel).1 t b dest

end

/-- C05: `DecodeObject` never panics -/
theorem decodeM_safe {P : Params} (hP : P.valid = true) (S : Schema) (sid : Nat) (b : Bytes) (dest : Val) :
    (decodeM P S sid b dest).safe := by
  rw [decodeM_eq]
  exact safe_mapv ((decode_safe_all hP S b.length P.maxDepth).2 sid b dest)

end Frugal
