/-
  What `Params.valid` gives, one lemma per conjunct the proofs use (`validBitset` is taken whole by BitsetLemmas,
  `validSpan` and `mapBinaryGuard` by the properties).  `mapRowsOK`: a look-up returns a row of the map table or the
  default, so judging each row once and the default at every pair of tags implies the 144 × 2 look-ups of `validMap`.
-/
import Frugal.Valid
namespace Frugal

theorem TT.mem_all (t : TT) : t ∈ TT.all := by cases t <;> decide

section
variable {P : Params}

theorem valid_parts (h : P.valid = true) :
    P.validSizes = true ∧ P.validSimple = true ∧ P.validContainer = true ∧ P.validHeaders = true ∧
    P.validList = true ∧ P.validMap = true ∧ P.validMinWire = true ∧ P.validMinWireFixed = true ∧
    P.validSkip = true ∧ P.validDepth = true ∧ P.validBitset = true ∧ P.validSpan = true ∧
    P.mapBinaryGuard = true ∧ P.binarySeesThroughPtr = true := by
  simpa only [Params.valid, Bool.and_eq_true, and_assoc] using h

theorem simple_eq (h : P.valid = true) (t : TT) : P.simple t = specSimple t :=
  beq_iff_eq.1 (List.all_eq_true.1 (valid_parts h).2.1 t (TT.mem_all t))

theorem fixed_eq (h : P.valid = true) (t : TT) : P.fixedSize t = specFixed t :=
  beq_iff_eq.1 (List.all_eq_true.1 (valid_parts h).1 t (TT.mem_all t))

theorem container_eq (h : P.valid = true) (t : TT) : P.container t = specContainer t :=
  beq_iff_eq.1 (List.all_eq_true.1 (valid_parts h).2.2.1 t (TT.mem_all t))

theorem headers_eq (h : P.valid = true) :
    P.fieldHeaderLen = 3 ∧ P.mapHeaderLen = 6 ∧ P.listHeaderLen = 5 ∧ P.strHeaderLen = 4 := by
  simpa only [Params.validHeaders, Bool.and_eq_true, beq_iff_eq, and_assoc] using (valid_parts h).2.2.2.1

theorem list_ok (h : P.valid = true) (t : TT) : opOK t (P.listRoutine t) = true :=
  List.all_eq_true.1 (valid_parts h).2.2.2.2.1 t (TT.mem_all t)

theorem map_ok (h : P.valid = true) (k v : TT) (b : Bool) (hb : b = true → v = .string) :
    opOK k (P.mapRoutine k v b).kw = true ∧ opOK v (P.mapRoutine k v b).vw = true := by
  have := (valid_parts h).2.2.2.2.2.1
  simp only [Params.validMap, List.all_eq_true, Bool.and_eq_true, Bool.or_eq_true] at this
  have hk := this k (TT.mem_all k) v (TT.mem_all v)
  have ok : ∀ r, routineOK k v r = true → opOK k r.kw = true ∧ opOK v r.vw = true := by
    intro r hr
    simp only [routineOK, Bool.and_eq_true] at hr
    exact ⟨hr.1.1.1.1, hr.1.1.1.2⟩
  cases b with
  | false => exact ok _ hk.1
  | true =>
    rcases hk.2 with hne | hr
    · simp [hb rfl] at hne
    · exact ok _ hr.2

theorem minWire_bounds (h : P.valid = true) {w : Nat} (hw : w ∈ Params.wireCodes) :
    0 < P.minWireOf w ∧ P.minWireOf w ≤ Params.minSer w := by
  simpa only [Bool.and_eq_true, decide_eq_true_eq] using List.all_eq_true.1 (valid_parts h).2.2.2.2.2.2.1 w hw

theorem minWire_fixed_tt (h : P.valid = true) (t : TT) (hf : specFixed t > 0) :
    P.minWireOf t.wire = specFixed t := by
  have := (valid_parts h).2.2.2.2.2.2.2.1
  simp only [Params.validMinWireFixed, List.all_eq_true, Bool.or_eq_true, beq_iff_eq] at this
  exact (this t (TT.mem_all t)).resolve_left (Nat.ne_of_gt hf)

/-- size of fixed-size wire types as the gopkg skipper's table has it -/
def wireFixed (w : Nat) : Nat :=
  if w = 2 ∨ w = 3 then 1 else if w = 6 then 2 else if w = 8 then 4 else if w = 4 ∨ w = 10 then 8 else 0

theorem skip_parts (h : P.valid = true) :
    P.skipRecovers = true ∧ P.skipDepth = 64 ∧ ∀ w < 128, P.skipFixedOf w = wireFixed w := by
  have := (valid_parts h).2.2.2.2.2.2.2.2.1
  simp only [Params.validSkip, Bool.and_eq_true, List.all_eq_true, beq_iff_eq, List.mem_range, List.mem_cons,
    List.not_mem_nil, or_false] at this
  exact ⟨this.1.1, this.1.2, this.2⟩

theorem depth_bounds (h : P.valid = true) : 96 ≤ P.maxDepth ∧ P.maxDepth ≤ 4096 := by
  have := (valid_parts h).2.2.2.2.2.2.2.2.2.1
  simpa only [Params.validDepth, Bool.and_eq_true, decide_eq_true_eq] using this

/-- with a valid parameter set the nocopy path looks through a pointer, as the reader does -/
theorem nocopy_isBinary (hP : P.valid = true) (t : Ty) :
    (t.isBinary || (P.binarySeesThroughPtr && t.deref.isBinary)) = t.deref.isBinary := by
  rw [(valid_parts hP).2.2.2.2.2.2.2.2.2.2.2.2.2]
  cases t with
  | base k => cases k <;> rfl
  | _ => rfl

theorem skipFixed_eq (h : P.valid = true) (w : Nat) (hw : w < 128) : P.skipFixedOf w = wireFixed w :=
  (skip_parts h).2.2 w hw

theorem skipDepth_eq (h : P.valid = true) : P.skipDepth = 64 := (skip_parts h).2.1

theorem Ty.wire_mem (t : Ty) : t.wire ∈ Params.wireCodes := by
  unfold Ty.wire
  cases t.tt <;> exact of_decide_eq_true rfl

theorem minWire_pos (h : P.valid = true) (t : Ty) : 0 < P.minWireOf t.wire :=
  (minWire_bounds h (Ty.wire_mem t)).1

end

theorem lookup_mem {α β : Type} [BEq α] [LawfulBEq α] {a : α} {b : β} {l : List (α × β)}
    (h : l.lookup a = some b) : (a, b) ∈ l := by
  obtain ⟨l₁, l₂, rfl, -⟩ := List.lookup_eq_some_iff.1 h
  exact List.mem_append_right _ (List.mem_cons_self ..)

namespace Params

/-- the binary guard is on, the default routine is right for every pair of tags and iterates, and each
    row is right for its own pair (rows for double keys are never consulted under the double-key guard) -/
def mapRowsOK (P : Params) : Bool :=
  P.mapBinaryGuard && P.mapDefault.castV == .iter &&
  (TT.all.all fun k => TT.all.all fun v => routineOK k v P.mapDefault) &&
  P.mapTable.all fun row => (P.mapDoubleKeyGuard && row.1.1 == .double) || routineOK row.1.1 row.1.2 row.2

theorem validMap_of_rows {P : Params} (h : P.mapRowsOK = true) : P.validMap = true := by
  simp only [mapRowsOK, Bool.and_eq_true, List.all_eq_true, Bool.or_eq_true, beq_iff_eq] at h
  obtain ⟨⟨⟨hg, hi⟩, hd⟩, hr⟩ := h
  have look : ∀ k v, routineOK k v (P.mapRoutine k v false) = true := by
    intro k v
    simp only [mapRoutine, Bool.and_false, Bool.false_eq_true, ↓reduceIte]
    split
    · exact hd k (TT.mem_all k) v (TT.mem_all v)
    · next hdk =>
      cases hl : P.mapTable.lookup (k, v) with
      | none => exact hd k (TT.mem_all k) v (TT.mem_all v)
      | some r =>
        exact (hr _ (lookup_mem hl)).resolve_left fun hdbl =>
          hdk (by simpa only [Bool.and_eq_true, beq_iff_eq] using hdbl)
  simp only [validMap, List.all_eq_true, Bool.and_eq_true, Bool.or_eq_true]
  intro k _ v _
  refine ⟨look k v, .inr ?_⟩
  simp only [mapRoutine, hg, Bool.and_self, ↓reduceIte]
  exact ⟨by simpa only [beq_iff_eq] using hi, hd k (TT.mem_all k) v (TT.mem_all v)⟩

end Params
end Frugal
