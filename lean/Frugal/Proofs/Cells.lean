/- C05, allocation on the accepting side: every cell a decode creates for a well-formed message owns at least one
   byte of it, so what `DecodeObject` accepts it built in memory proportional to the input.  (D22's disproportion
   is confined to inputs rejected in the end: nested counts claim cells before the bytes backing them are read.) -/
import Frugal.Wire
namespace Frugal

/- the storage cells (each `tType.Size` of its type, bounded) a reader creates for a value: one per list / set
   element, two per map entry, one per struct field value (the decoder allocates for pointer fields only) -/
mutual
def cells : TVal → Nat
  | .strct fs => cellsFields fs
  | .map _ _ es => cellsEntries es
  | .set _ xs => cellsList xs
  | .list _ xs => cellsList xs
  | _ => 0
def cellsFields : List (Nat × TVal) → Nat
  | [] => 0
  | (_, v) :: r => 1 + cells v + cellsFields r
def cellsEntries : List (TVal × TVal) → Nat
  | [] => 0
  | (k, v) :: r => 2 + cells k + cells v + cellsEntries r
def cellsList : List TVal → Nat
  | [] => 0
  | v :: r => 1 + cells v + cellsList r
end

mutual
theorem cells_lt_ser : ∀ v : TVal, cells v + 1 ≤ (ser v).length
  | .bool _ | .i8 _ | .double _ | .i16 _ | .i32 _ | .i64 _ => by simp [cells, ser]
  | .str _ => by simp [cells, ser]; omega
  | .strct fs => by
    have := cellsFields_le_ser fs
    simp only [cells, ser, List.length_append, List.length_cons, List.length_nil]; omega
  | .map _ _ es => by
    have := cellsEntries_le_ser es
    simp only [cells, ser, List.length_append, List.length_cons, be32_length]; omega
  | .set _ xs | .list _ xs => by
    have := cellsList_le_ser xs
    simp only [cells, ser, List.length_append, List.length_cons, be32_length]; omega
termination_by structural v => v
theorem cellsFields_le_ser : ∀ fs : List (Nat × TVal), cellsFields fs ≤ (serFields fs).length
  | [] => Nat.zero_le _
  | (_, v) :: r => by
    have := cells_lt_ser v
    have := cellsFields_le_ser r
    simp only [cellsFields, serFields, List.length_append, List.length_cons]; omega
termination_by structural fs => fs
theorem cellsEntries_le_ser : ∀ es : List (TVal × TVal), cellsEntries es ≤ (serEntries es).length
  | [] => Nat.zero_le _
  | (k, v) :: r => by
    have := cells_lt_ser k
    have := cells_lt_ser v
    have := cellsEntries_le_ser r
    simp only [cellsEntries, serEntries, List.length_append]; omega
termination_by structural es => es
theorem cellsList_le_ser : ∀ xs : List TVal, cellsList xs ≤ (serList xs).length
  | [] => Nat.zero_le _
  | v :: r => by
    have := cells_lt_ser v
    have := cellsList_le_ser r
    simp only [cellsList, serList, List.length_append]; omega
termination_by structural xs => xs
end

end Frugal
