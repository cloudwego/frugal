/- With `fitH` (HoldersRead) and `hasTy` (ReadTyped), `unkOK` makes what an intermediary decoded a legitimate
   input of `roundtrip_holders`: decode, re-encode, decode again loses nothing. -/
import Frugal.Proofs.ToWire
import Frugal.Proofs.HoldersRead
namespace Frugal

section
variable (P : Params) (S : Schema)

theorem unkOK_sc (t : Ty) (n : Nat) : unkOK P S t (.sc n) = true := by cases t <;> rfl
theorem unkOK_nilp (t : Ty) : unkOK P S t .nilp = true := by cases t <;> rfl

theorem unkFieldsOK_nil (sd : SDesc) : unkFieldsOK P sd [] = true := rfl

theorem zeroVal_unkOK : ∀ (n : Nat) (t : Ty), unkOK P S t (zeroVal S n t) = true
  | 0, t => by
    cases t with
    | base k => cases k <;> rfl
    | _ => simp [zeroVal, unkOK, unkOKList, unkOKEntries, unkOKFields, unkFieldsOK]
  | n + 1, t => by
    cases t with
    | base k => cases k <;> rfl
    | strct sid =>
      simp only [zeroVal, unkOK, holderFields_nil, unkFieldsOK_nil, Bool.true_and]
      generalize (S.get sid).fields = fs
      induction fs with
      | nil => simp [unkOKFields]
      | cons f r ih => simp [unkOKFields, zeroVal_unkOK n f.ty, ih]
    | _ => simp [zeroVal, unkOK, unkOKList, unkOKEntries]

theorem readFixed_unkOK (t' : Ty) (t : TT) (tv : TVal) (w : Val) (h : readFixed t tv = .ok w) :
    unkOK P S t' w = true := by
  obtain ⟨n, rfl⟩ := readFixed_ok h
  exact unkOK_sc P S t' n

theorem readStr_unkOK (t' : Ty) (isBin nc : Bool) (total tail : Nat) (tv : TVal) (w : Val)
    (h : readStr isBin nc total tail tv = .ok w) : unkOK P S t' w = true := by
  obtain ⟨s, _, hs⟩ := readStr_ok h
  -- a string, a binary and their views hold nothing to check, at any type
  rcases hs with rfl | ⟨_, _, rfl⟩ <;> cases isBin <;> cases t' <;> rfl

theorem wrapPtr_unkOK (t : Ty) (w : Val) (h : unkOK P S t.deref w = true) : unkOK P S t (wrapPtr t w) = true := by
  cases t with
  | ptr e => unfold wrapPtr unkOK; exact h
  | _ => exact h

theorem freshTarget_unkOK (t : Ty) (slot : Val) (h : unkOK P S t slot = true) :
    unkOK P S t.deref (freshTarget S t slot) = true := by
  cases t with
  | ptr e => exact zeroVal_unkOK P S _ e
  | _ => exact h

theorem unkOKFields_at : ∀ (fs : List Field) (vs : List Val) (ix : Nat) (f : Field),
    fs[ix]? = some f → unkOKFields P S fs vs = true →
    unkOK P S f.ty (vs.getD ix default) = true ∧
      ∀ x, unkOK P S f.ty x = true → unkOKFields P S fs (vs.set ix x) = true
  | [], _, _, _, hf, _ => by simp at hf
  | _ :: _, [], _, f, _, _ => ⟨unkOK_sc P S f.ty 0, fun _ _ => rfl⟩
  | g :: fr, v :: vr, 0, f, hf, h => by
    simp only [List.getElem?_cons_zero, Option.some.injEq] at hf
    subst hf
    simp only [unkOKFields, Bool.and_eq_true] at h
    exact ⟨by simpa using h.1, fun x hx => by simp [unkOKFields, hx, h.2]⟩
  | g :: fr, v :: vr, ix + 1, f, hf, h => by
    simp only [unkOKFields, Bool.and_eq_true] at h
    have ih := unkOKFields_at fr vr ix f hf h.2
    exact ⟨by simpa using ih.1, fun x hx => by simp [unkOKFields, h.1, ih.2 x hx]⟩

theorem applyInit_unkOK : ∀ (fs : List Field) (vs : List Val),
    (∀ f ∈ fs, f.assigned = true → ∀ d, f.dflt = some d → unkOK P S f.ty d = true) →
    unkOKFields P S fs vs = true →
    unkOKFields P S fs (applyInit fs vs) = true
  | [], _, _, _ => by simp [unkOKFields]
  | _ :: _, [], _, _ => rfl
  | f :: fr, v :: vr, hd, h => by
    simp only [unkOKFields, Bool.and_eq_true] at h
    simp only [applyInit, unkOKFields, Bool.and_eq_true]
    exact ⟨applyInit_head f v h.1 (hd f (List.mem_cons_self ..)),
      applyInit_unkOK fr vr (fun g hg => hd g (List.mem_cons_of_mem _ hg)) h.2⟩

theorem initDest_unkOK (sid : Nat) (dest : Val)
    (hdf : ∀ f ∈ (S.get sid).fields, f.assigned = true → ∀ d, f.dflt = some d → unkOK P S f.ty d = true)
    (h : unkOK P S (.strct sid) dest = true) : unkOK P S (.strct sid) (initDest S sid dest) = true := by
  refine initDest_cases S sid dest h fun vs hh h => ?_
  simp only [unkOK, Bool.and_eq_true] at h ⊢
  exact ⟨h.1, applyInit_unkOK P S _ _ hdf h.2⟩
end

section
variable (P : Params) (S : Schema) (total : Nat)

/-- the field loop also shows that the fields it did not recognise passed the skipper's limit
    (`fieldsUnknown`), which is what a struct that keeps them puts in its holder (`struct`) -/
theorem reader_unkOK
    (hdf : ∀ sid, ∀ f ∈ (S.get sid).fields, f.assigned = true →
      ∀ d, f.dflt = some d → unkOK P S f.ty d = true) :
    (∀ {fuel t tv tail dest w}, readVal P S total fuel t tv tail dest = .ok w →
      wf tv = true → unkOK P S t dest = true → unkOK P S t w = true) ∧
    (∀ {fuel sid fs tail dest w}, readStruct P S total fuel sid fs tail dest = .ok w →
      wfFields fs = true → unkOK P S (.strct sid) dest = true → unkOK P S (.strct sid) w = true) ∧
    (∀ {fuel sd fs tail st st'}, readFields P S total fuel sd fs tail st = .ok st' →
      unkFieldsOK P sd (unknownOnly sd fs) = true ∧
      (wfFields fs = true → unkOKFields P S sd.fields st.fs = true →
        unkOKFields P S sd.fields st'.fs = true)) ∧
    (∀ {fuel t x tail slot w}, readSlot P S total fuel t x tail slot = .ok w →
      wf x = true → unkOK P S t slot = true → unkOK P S t w = true) ∧
    (∀ {fuel et xs tail vs}, readList P S total fuel et xs tail = .ok vs →
      ∀ a, wfList a xs = true → unkOKList P S et vs = true) ∧
    (∀ {fuel kt vt es tail acc res}, readEntries P S total fuel kt vt es tail acc = .ok res →
      ∀ a b, wfEntries a b es = true → unkOKEntries P S kt vt acc = true →
      unkOKEntries P S kt vt res = true) := by
  apply reader_induction
  case fixed => exact fun _ h _ _ => readFixed_unkOK P S _ _ _ _ h
  case str => exact fun _ h _ _ => readStr_unkOK P S _ _ _ _ _ _ _ h
  case map =>
    refine fun _ ih hw _ => ?_
    simp only [wf, Bool.and_eq_true] at hw
    exact ih _ _ hw.2 rfl
  case list | set =>
    refine fun _ ih hw _ => ?_
    simp only [wf, Bool.and_eq_true] at hw
    exact ih _ hw.2
  case structVal => exact fun _ ih hw hd => ih hw (initDest_unkOK P S _ _ (hdf _) hd)
  case struct =>
    refine @fun fuel sid fs tail vs hh st hl _ ih hw hd => ?_
    simp only [unkOK, Bool.and_eq_true] at hd ⊢
    refine ⟨?_, ih.2 hw hd.2⟩
    split
    · rename_i hb
      rw [holder_content P S total fuel (S.get sid) fs (tail + 1) vs st hb.1 hl, holderFields_unknownBytes _ fs hw]
      exact ih.1
    · exact hd.1
  case fieldsNil => exact ⟨rfl, fun _ hs => hs⟩
  case fieldsUnknown =>
    refine fun hk hsk _ ih => ⟨?_, fun hw hs => ?_⟩
    · simp only [unknownOnly, hk, Option.isNone_none, ↓reduceIte, unkFieldsOK, List.all_cons, Bool.true_and,
        Bool.and_eq_true, decide_eq_true_eq]
      exact ⟨hsk, ih.1⟩
    · simp only [wfFields, Bool.and_eq_true] at hw
      exact ih.2 hw.2 hs
  case fieldsView =>
    refine fun hk _ _ hv _ ih => ⟨?_, fun hw hs => ?_⟩
    · simp only [unknownOnly, hk, Option.isNone_some, Bool.false_eq_true, ↓reduceIte]
      exact ih.1
    · simp only [wfFields, Bool.and_eq_true] at hw
      exact ih.2 hw.2 ((unkOKFields_at P S _ _ _ _ (lookupKnown_getElem _ _ _ _ _ hk).1 hs).2 _
        (wrapPtr_unkOK P S _ _ (readStr_unkOK P S _ _ _ _ _ _ _ hv)))
  case fieldsKnown =>
    refine fun hk _ _ ihx _ ih => ⟨?_, fun hw hs => ?_⟩
    · simp only [unknownOnly, hk, Option.isNone_some, Bool.false_eq_true, ↓reduceIte]
      exact ih.1
    · simp only [wfFields, Bool.and_eq_true] at hw
      obtain ⟨hslot, hset⟩ := unkOKFields_at P S _ _ _ _ (lookupKnown_getElem _ _ _ _ _ hk).1 hs
      exact ih.2 hw.2 (hset _ (ihx hw.1.2 hslot))
  case slotFixed => exact fun _ h _ _ => wrapPtr_unkOK P S _ _ (readFixed_unkOK P S _ _ _ _ h)
  case slotVal => exact fun _ _ ih hw hs => wrapPtr_unkOK P S _ _ (ih hw (freshTarget_unkOK P S _ _ hs))
  case listNil => exact fun _ _ => rfl
  case listCons =>
    refine fun _ ihx _ ih a hw => ?_
    simp only [wfList, Bool.and_eq_true] at hw
    simp only [unkOKList, Bool.and_eq_true]
    exact ⟨ihx hw.1.2 (zeroVal_unkOK P S _ _), ih a hw.2⟩
  case entriesNil => exact fun _ _ _ ha => ha
  case entriesCons =>
    refine fun _ ihk _ ihv _ ih a b hw ha => ?_
    simp only [wfEntries, Bool.and_eq_true] at hw
    exact ih a b hw.2 (mapInsert_cases _ rfl (fun _ _ _ => rfl) _ _ _ ha (ihk hw.1.1.2 (zeroVal_unkOK P S _ _))
      (ihv hw.1.2 (zeroVal_unkOK P S _ _)))

variable (hdf : ∀ sid, ∀ f ∈ (S.get sid).fields, ∀ d, f.dflt = some d → unkOK P S f.ty d = true)
include hdf

theorem readVal_unkOK : ∀ (tv : TVal) (fuel : Nat) (t : Ty) (tail : Nat) (dest w : Val),
    wf tv = true → unkOK P S t dest = true → readVal P S total fuel t tv tail dest = .ok w →
    unkOK P S t w = true :=
  fun _ _ _ _ _ _ hw hd h => (reader_unkOK P S total fun sid f hf _ => hdf sid f hf).1 h hw hd

theorem readList_unkOK : ∀ (xs : List TVal) (fuel : Nat) (et : Ty) (tail : Nat) (vs : List Val) (a : Nat),
    wfList a xs = true → readList P S total fuel et xs tail = .ok vs → unkOKList P S et vs = true :=
  fun _ _ _ _ _ a hw h => (reader_unkOK P S total fun sid f hf _ => hdf sid f hf).2.2.2.2.1 h a hw

theorem readEntries_unkOK : ∀ (es : List (TVal × TVal)) (fuel : Nat) (kt vt : Ty) (tail : Nat)
    (acc res : List (Val × Val)) (a b : Nat), wfEntries a b es = true → unkOKEntries P S kt vt acc = true →
    readEntries P S total fuel kt vt es tail acc = .ok res → unkOKEntries P S kt vt res = true :=
  fun _ _ _ _ _ _ _ a b hw ha h => (reader_unkOK P S total fun sid f hf _ => hdf sid f hf).2.2.2.2.2 h a b hw ha

omit total in
theorem readMessage_unkOK (sid : Nat) (fs : List (Nat × TVal)) (trailing : Nat) (dest w : Val)
    (hw : wfFields fs = true) (hd : unkOK P S (.strct sid) dest = true)
    (h : readMessage P S sid fs trailing dest = .ok w) : unkOK P S (.strct sid) w = true :=
  (reader_unkOK P S _ fun sid f hf _ => hdf sid f hf).2.1 h hw hd
end

/-- re-encoding writes the recognised fields as the schema writes them, then the unrecognised fields of
    `fs` unchanged and in message order, then STOP -/
theorem reencode_known_then_unknown (S : Schema) (hS : S.ok = true) (sid : Nat) (vs : List Val)
    (fs : List (Nat × TVal)) (ht : hasTyFields S (S.get sid).fields vs = true) (hn : noHolderList vs = true) :
    refEnc S (.strct sid) (.st vs (unknownBytes (S.get sid) fs)) =
      ser (.strct (toWireFields S (S.get sid) (S.get sid).fields vs ++ unknownOnly (S.get sid) fs)) := by
  have := refEncFields_eq_ser S hS vs (S.get sid) (S.get sid).fields (sd_fields_ok hS sid) ht hn
  simp [refEnc, ser, this, serFields_append, unknownBytes_eq_ser]

end Frugal
