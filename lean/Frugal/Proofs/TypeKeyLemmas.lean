import Frugal.TypeKey
namespace Frugal

theorem goKind_eq {k k' : Kind} : k.goKind = k'.goKind →
    k = k' ∨ (k = .i64 ∧ k' = .enum) ∨ (k = .enum ∧ k' = .i64) := by
  cases k <;> cases k' <;> decide

/-- among annotations of one Go type the text `Type.String()` is a prefix code -/
theorem tyChars_prefix_free (nm : Nat → List Char) : ∀ (a b : Ty) (r1 r2 : List Char),
    a.shape = b.shape → tyChars nm a ++ r1 = tyChars nm b ++ r2 → a = b ∧ r1 = r2
  | .base k, b, r1, r2, hs, h => by
    cases b with
    | base k' =>
      rcases goKind_eq (Shape.k.inj hs) with rfl | ⟨rfl, rfl⟩ | ⟨rfl, rfl⟩
      · exact ⟨rfl, List.append_cancel_left h⟩
      -- the texts of `i64` and `enum` differ in their first character
      all_goals simp [tyChars, Kind.chars] at h
    | _ => simp [Ty.shape] at hs
  | .strct sid, b, r1, r2, hs, h => by
    cases b with
    | strct sid' =>
      cases Shape.strct.inj hs
      exact ⟨rfl, List.append_cancel_left h⟩
    | _ => simp [Ty.shape] at hs
  | .ptr e, b, r1, r2, hs, h => by
    cases b with
    | ptr e' =>
      simp only [tyChars, List.append_assoc] at h
      exact (tyChars_prefix_free nm e e' r1 r2 (Shape.ptr.inj hs) (List.append_cancel_left h)).imp_left (congrArg _)
    | _ => simp [Ty.shape] at hs
  | .list s e, b, r1, r2, hs, h => by
    cases b with
    | list s' e' =>
      cases s <;> cases s' <;> simp only [tyChars, List.append_assoc] at h
      case false.true | true.false => simp at h
      all_goals
        obtain ⟨rfl, hr⟩ := tyChars_prefix_free nm e e' _ _ (Shape.slice.inj hs) (List.append_cancel_left h)
        exact ⟨rfl, List.append_cancel_left hr⟩
    | _ => simp [Ty.shape] at hs
  | .map k v, b, r1, r2, hs, h => by
    cases b with
    | map k' v' =>
      obtain ⟨hk, hv⟩ := Shape.map.inj hs
      simp only [tyChars, List.append_assoc] at h
      obtain ⟨rfl, hr⟩ := tyChars_prefix_free nm k k' _ _ hk (List.append_cancel_left h)
      obtain ⟨rfl, hr2⟩ := tyChars_prefix_free nm v v' _ _ hv (List.append_cancel_left hr)
      exact ⟨rfl, List.append_cancel_left hr2⟩
    | _ => simp [Ty.shape] at hs

theorem nodeKey_injective (nm : Nat → List Char) (a b : Ty) (h : nodeKey nm a = nodeKey nm b) : a = b := by
  simp only [nodeKey, Prod.mk.injEq] at h
  exact (tyChars_prefix_free nm a b [] [] h.2 (by simpa using h.1)).1

/-- every entry is stored under the key of the annotation it was built from -/
def NodeCache.Inv (nm : Nat → List Char) (c : NodeCache) : Prop := ∀ p ∈ c, p.1 = nodeKey nm p.2

theorem NodeCache.find_mem (c : NodeCache) (k : List Char × Shape) (y : Ty) (h : c.find k = some y) :
    (k, y) ∈ c := by
  induction c with
  | nil => simp [NodeCache.find] at h
  | cons p r ih =>
    obtain ⟨k', y'⟩ := p
    simp only [NodeCache.find] at h
    split at h
    · next hk =>
      cases h
      cases hk
      exact List.mem_cons_self ..
    · exact List.mem_cons_of_mem _ (ih h)

theorem getNode_correct (nm : Nat → List Char) (c : NodeCache) (x : Ty) (hc : c.Inv nm) :
    (getNode nm c x).1 = x ∧ (getNode nm c x).2.Inv nm := by
  unfold getNode
  cases hf : c.find (nodeKey nm x) with
  | some y => exact ⟨(nodeKey_injective nm x y (hc _ (NodeCache.find_mem c _ y hf))).symm, hc⟩
  | none => exact ⟨rfl, List.forall_mem_cons.2 ⟨rfl, hc⟩⟩

theorem getNode_history (nm : Nat → List Char) : ∀ (xs : List Ty) (c : NodeCache), c.Inv nm →
    (xs.foldl (fun c x => (getNode nm c x).2) c).Inv nm
  | [], _, hc => hc
  | x :: r, c, hc => getNode_history nm r _ (getNode_correct nm c x hc).2

end Frugal
