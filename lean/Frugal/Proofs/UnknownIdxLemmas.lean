/- `Copy` returns the concatenation of the recorded slices, fully initialised (`UF.Inv`: `sz` is the sum of the
   sizes); the extent recorded for a skipped field — header position `i - 3`, size `n + 3` — is the field's
   header followed by the `n` skipped bytes, which is what `fieldLoop` appends. -/
import Frugal.UnknownIdx
namespace Frugal

theorem slice_length (b : Bytes) (off sz : Nat) (h : off + sz ≤ b.length) : (slice b off sz).length = sz := by
  simp [slice]; omega

theorem UF.copied_add (p : UF) (off sz : Nat) (b : Bytes) :
    (p.add off sz).copied b = p.copied b ++ slice b off sz := by
  simp [UF.copied, UF.add, List.flatMap_append]

/-- the invariant `Add` maintains: `sz` is the number of bytes the ranges cover -/
def UF.Inv (p : UF) (b : Bytes) : Prop := p.inBounds b = true ∧ (p.copied b).length = p.sz

theorem UF.inv_reset (b : Bytes) : UF.reset.Inv b := ⟨rfl, rfl⟩

theorem UF.inv_add (p : UF) (off sz : Nat) (b : Bytes) (hp : p.Inv b) (h : off + sz ≤ b.length) :
    (p.add off sz).Inv b := by
  obtain ⟨h1, h2⟩ := hp
  refine ⟨?_, ?_⟩
  · simp only [UF.inBounds, UF.add, List.all_append, List.all_cons, List.all_nil, Bool.and_true,
      Bool.and_eq_true, decide_eq_true_eq]
    exact ⟨h1, h⟩
  · rw [UF.copied_add, List.length_append, slice_length b off sz h, h2]; rfl

/-- `Copy` succeeds: every byte of its uninitialised buffer is written, no range leaves `b` -/
theorem UF.copy_of_inv (p : UF) (b : Bytes) (hp : p.Inv b) : p.copy b = some (p.copied b) := by
  obtain ⟨h1, h2⟩ := hp
  simp only [UF.inBounds] at h1
  simp [UF.copy, h1, h2]

theorem UF.history (b : Bytes) : ∀ (es : List (Nat × Nat)) (p : UF), p.Inv b →
    (∀ e ∈ es, e.1 + e.2 ≤ b.length) →
    (es.foldl (fun u e => u.add e.1 e.2) p).Inv b ∧
    (es.foldl (fun u e => u.add e.1 e.2) p).copied b = p.copied b ++ es.flatMap fun e => slice b e.1 e.2
  | [], p, hp, _ => ⟨hp, (List.append_nil _).symm⟩
  | e :: r, p, hp, h => by
    obtain ⟨h0, ht⟩ := List.forall_mem_cons.1 h
    have ih := UF.history b r (p.add e.1 e.2) (UF.inv_add p e.1 e.2 b hp h0) ht
    simp only [List.foldl_cons, List.flatMap_cons]
    refine ⟨ih.1, ?_⟩
    rw [ih.2, UF.copied_add, List.append_assoc]

/-- with the field header at position `i0` of `b`, the slice `b[i0 : i0 + n + 3]` is what the byte model
    appends to `unk`; it lies inside `b` whenever the skipped value does (otherwise the loop fails with a short
    buffer at its next read and `Copy` is never reached) -/
theorem recorded_extent (b : Bytes) (i0 n : Nat) (tp : UInt8) (r r1 : Bytes) (fid : Nat)
    (hb : b.drop i0 = tp :: r) (hid : rd16 r = some (fid, r1)) :
    slice b i0 (n + 3) = tp :: (r.take 2 ++ r1.take n) ∧ (n ≤ r1.length → i0 + (n + 3) ≤ b.length) := by
  have hl : (b.drop i0).length = b.length - i0 := List.length_drop
  unfold slice
  rw [hb] at hl ⊢
  match r, hid with
  | a :: c :: r', hid =>
    obtain ⟨_, rfl⟩ := hid
    simp only [List.length_cons] at hl
    exact ⟨by simp [List.take], fun hn => by omega⟩

/-- one step of the two models side by side -/
theorem step_agrees (p : UF) (b : Bytes) (unk : Bytes) (i0 n : Nat) (tp : UInt8) (r r1 : Bytes) (fid : Nat)
    (hp : p.Inv b) (hu : p.copied b = unk)
    (hb : b.drop i0 = tp :: r) (hid : rd16 r = some (fid, r1)) (hn : n ≤ r1.length) :
    (p.add i0 (n + 3)).Inv b ∧ (p.add i0 (n + 3)).copied b = unk ++ tp :: (r.take 2 ++ r1.take n) := by
  obtain ⟨e, hin⟩ := recorded_extent b i0 n tp r r1 fid hb hid
  exact ⟨UF.inv_add p i0 (n + 3) b hp (hin hn), by rw [UF.copied_add, hu, e]⟩
end Frugal
