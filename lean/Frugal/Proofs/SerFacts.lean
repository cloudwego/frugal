/-
  A fixed-size value is the big-endian number it carries (`scalarTV`), so statements about all of
  them need no case per width.
-/
import Frugal.Proofs.WireRT
import Frugal.Proofs.ValidFacts
import Frugal.Reader  -- `TVal.isScalarOrStr`
namespace Frugal

theorem ser_pos (v : TVal) : 0 < (ser v).length := by
  cases v <;> simp [ser] <;> omega

theorem ser_fixed_len (v : TVal) (h : wireFixed v.tag > 0) : (ser v).length = wireFixed v.tag := by
  cases v <;> simp [TVal.tag, wireFixed, ser] at h ⊢

theorem wireFixed_scalar (v : TVal) (h : wireFixed v.tag > 0) : v.isScalarOrStr = true := by
  cases v <;> simp [TVal.tag, wireFixed, TVal.isScalarOrStr] at h ⊢

/-- the fixed-size value with wire code `w` that carries the number `n` -/
def scalarTV (w n : Nat) : TVal :=
  if w = 2 then .bool n else if w = 3 then .i8 n else if w = 4 then .double n else if w = 6 then .i16 n
  else if w = 8 then .i32 n else .i64 n

theorem wireFixed_pos {w : Nat} (h : wireFixed w > 0) : w = 2 ∨ w = 3 ∨ w = 4 ∨ w = 6 ∨ w = 8 ∨ w = 10 := by
  refine Decidable.byContradiction fun hn => ?_
  rw [wireFixed, if_neg (by omega), if_neg (by omega), if_neg (by omega), if_neg (by omega)] at h
  exact Nat.lt_irrefl 0 h

theorem scalarTV_spec {w : Nat} (h : wireFixed w > 0) (n : Nat) :
    (scalarTV w n).tag = w ∧ ser (scalarTV w n) = beBytes (wireFixed w) n ∧
      wf (scalarTV w n) = decide (n < 256 ^ wireFixed w) := by
  rcases wireFixed_pos h with rfl | rfl | rfl | rfl | rfl | rfl <;>
    simp [scalarTV, TVal.tag, ser, wf, wireFixed, be16_eq, be32_eq, be64_eq, beBytes]

theorem eq_scalarTV {tv : TVal} (h : wireFixed tv.tag > 0) : ∃ n, tv = scalarTV tv.tag n := by
  cases tv <;> first | exact ⟨_, rfl⟩ | exact absurd h (Nat.lt_irrefl 0)

theorem minSer_le (v : TVal) : Params.minSer v.tag ≤ (ser v).length := by
  cases v <;> simp [TVal.tag, Params.minSer, ser] <;> omega

theorem tag_mem_codes (v : TVal) : v.tag ∈ Params.wireCodes := by
  cases v <;> exact of_decide_eq_true rfl

section
variable {P : Params}

theorem minWire_le_ser (h : P.valid = true) (v : TVal) : P.minWireOf v.tag ≤ (ser v).length :=
  Nat.le_trans (minWire_bounds h (tag_mem_codes v)).2 (minSer_le v)

theorem list_count_fits (h : P.valid = true) (et : Nat) :
    ∀ xs : List TVal, wfList et xs = true → xs.length * P.minWireOf et ≤ (serList xs).length
  | [], _ => by simp [serList]
  | x :: r, hw => by
    simp only [wfList, Bool.and_eq_true, beq_iff_eq] at hw
    obtain ⟨⟨rfl, _⟩, ht⟩ := hw
    have ih := list_count_fits h _ r ht
    have hx := minWire_le_ser h x
    simp only [serList, List.length_cons, List.length_append, Nat.succ_mul]
    omega

theorem entries_count_fits (h : P.valid = true) (kt vt : Nat) :
    ∀ es : List (TVal × TVal), wfEntries kt vt es = true →
      es.length * (P.minWireOf kt + P.minWireOf vt) ≤ (serEntries es).length
  | [], _ => by simp [serEntries]
  | (a, b) :: r, hw => by
    simp only [wfEntries, Bool.and_eq_true, beq_iff_eq] at hw
    obtain ⟨⟨⟨⟨rfl, rfl⟩, _⟩, _⟩, ht⟩ := hw
    have ih := entries_count_fits h _ _ r ht
    have ha := minWire_le_ser h a
    have hb := minWire_le_ser h b
    simp only [serEntries, List.length_cons, List.length_append, Nat.succ_mul]
    omega

end

end Frugal
