/- C02 with holders: `holdersOK` is what `refEnc = ser ∘ toWireH` needs, `fitH` what `wf ∘ toWireH` needs.
   `unkOK` and `normTopH` are for the reader's half (ReadNormH.lean, RoundTrip.lean). -/
import Frugal.Norm
import Frugal.Proofs.ToWireDefs
namespace Frugal

/-- the fields that retained bytes serialise (none when the bytes are not a field sequence) -/
def holderFields (h : Bytes) : List (Nat × TVal) :=
  match parseFields (parse (h.length + 1)) (h.length + 2) (h ++ [0]) with
  | some (fs, _) => fs
  | none => []

theorem holderFields_ser (us : List (Nat × TVal)) (hw : wfFields us = true) :
    holderFields (serFields us) = us := by
  unfold holderFields
  have h1 := depthFields_le_ser us
  have h2 := serFields_len us
  rw [parseFields_ser us _ _ [] hw (by omega) (by omega)]

@[simp] theorem holderFields_nil : holderFields [] = [] := holderFields_ser [] rfl

/- `toWire` (Encode.lean) with, in every struct, the fields its holder serialises listed after the struct's own -/
mutual
def toWireH (S : Schema) : Ty → Val → TVal
  | .base k, .sc n => scalarTVal k n
  | .base _, .str s => .str s
  | .base _, .bin _ s => .str s
  | .ptr e, .ptr v => toWireH S e v
  | .ptr (.strct _), .nilp => .strct []
  | .list isSet e, .lst _ xs =>
      if isSet then .set e.wire (toWireListH S e xs) else .list e.wire (toWireListH S e xs)
  | .map k v, .mp _ es => .map k.wire v.wire (toWireEntriesH S k v es)
  | .strct sid, .st fs h => .strct (toWireFieldsH S (S.get sid) (S.get sid).fields fs ++ holderFields h)
  | _, _ => .strct []
def toWireListH (S : Schema) (e : Ty) : List Val → List TVal
  | [] => []
  | x :: r => toWireH S e x :: toWireListH S e r
def toWireEntriesH (S : Schema) (k v : Ty) : List (Val × Val) → List (TVal × TVal)
  | [] => []
  | (a, b) :: r => (toWireH S k a, toWireH S v b) :: toWireEntriesH S k v r
def toWireFieldsH (S : Schema) (sd : SDesc) : List Field → List Val → List (Nat × TVal)
  | f :: fr, x :: xr =>
      if fieldWritten sd f x then (f.id, toWireH S f.ty x) :: toWireFieldsH S sd fr xr
      else toWireFieldsH S sd fr xr
  | _, _ => []
end

theorem toWireListH_length (S : Schema) (e : Ty) : ∀ xs : List Val, (toWireListH S e xs).length = xs.length
  | [] => rfl
  | x :: r => by simp only [toWireListH, List.length_cons, toWireListH_length S e r]

theorem toWireEntriesH_length (S : Schema) (k v : Ty) :
    ∀ es : List (Val × Val), (toWireEntriesH S k v es).length = es.length
  | [] => rfl
  | (a, b) :: r => by simp only [toWireEntriesH, List.length_cons, toWireEntriesH_length S k v r]

/- every holder of the value is the serialisation of a list of fields -/
mutual
def holdersOK : Val → Bool
  | .st fs h => decide (serFields (holderFields h) = h) && holdersOKList fs
  | .ptr v => holdersOK v
  | .lst _ xs => holdersOKList xs
  | .mp _ es => holdersOKEntries es
  | _ => true
def holdersOKList : List Val → Bool
  | [] => true
  | x :: r => holdersOK x && holdersOKList r
def holdersOKEntries : List (Val × Val) → Bool
  | [] => true
  | (a, b) :: r => holdersOK a && holdersOK b && holdersOKEntries r
end

/- `sizesFit`, and every holder is the serialisation of a list of well-formed fields -/
mutual
def fitH : Val → Bool
  | .str s => s.length < 2147483648
  | .bin _ s => s.length < 2147483648
  | .ptr v => fitH v
  | .lst _ xs => xs.length < 2147483648 && fitHList xs
  | .mp _ es => es.length < 2147483648 && fitHEntries es
  | .st fs h => decide (serFields (holderFields h) = h) && wfFields (holderFields h) && fitHList fs
  | _ => true
def fitHList : List Val → Bool
  | [] => true
  | x :: r => fitH x && fitHList r
def fitHEntries : List (Val × Val) → Bool
  | [] => true
  | (a, b) :: r => fitH a && fitH b && fitHEntries r
end

/- `norm` (Norm.lean) that also gives a struct whose type has the holder the bytes it carried back (one that
   carried none keeps the destination's) -/
mutual
def normH (S : Schema) : Ty → Val → Val → Val
  | .base k, .sc n, _ => .sc (normScalar k n)
  | .base _, .str s, _ => .str s
  | .base _, .bin _ s, _ => .bin false s
  | .ptr e, .ptr v, _ => .ptr (normH S e v (zeroVal S S.length e))
  | .ptr (.strct sid), .nilp, _ => .ptr (initDest S sid (zeroVal S S.length (.strct sid)))
  | .list _ e, .lst _ xs, _ => .lst false (normListH S e xs)
  | .map k v, .mp _ es, _ => .mp false (normEntriesH S k v es [])
  | .strct sid, .st xs h, dest =>
      match initDest S sid dest with
      | .st ds h0 => .st (normFieldsH S (S.get sid) (S.get sid).fields xs ds)
                        (if (S.get sid).hasHolder && h.length > 0 then h else h0)
      | d => d
  | _, v, _ => v
def normListH (S : Schema) (e : Ty) : List Val → List Val
  | [] => []
  | x :: r => normH S e x (zeroVal S S.length e) :: normListH S e r
def normEntriesH (S : Schema) (k v : Ty) : List (Val × Val) → List (Val × Val) → List (Val × Val)
  | [], acc => acc
  | (a, b) :: r, acc =>
      normEntriesH S k v r
        (mapInsert k acc (normH S k a (zeroVal S S.length k)) (normH S v b (zeroVal S S.length v)))
def normFieldsH (S : Schema) (sd : SDesc) : List Field → List Val → List Val → List Val
  | f :: fr, x :: xr, d :: dr =>
      (if fieldWritten sd f x then normH S f.ty x d else d) :: normFieldsH S sd fr xr dr
  | _, _, ds => ds
end

/-- the fields a holder serialises are unknown to the struct and within the skipper's nesting limit -/
def unkFieldsOK (P : Params) (sd : SDesc) (us : List (Nat × TVal)) : Bool :=
  us.all fun p => (lookupKnown sd p.1 p.2.tag).isNone && decide (skipNeed p.2 ≤ P.skipDepth)

mutual
def unkOK (P : Params) (S : Schema) : Ty → Val → Bool
  | .ptr e, .ptr v => unkOK P S e v
  | .list _ e, .lst _ xs => unkOKList P S e xs
  | .map k v, .mp _ es => unkOKEntries P S k v es
  | .strct sid, .st xs h =>
      unkFieldsOK P (S.get sid) (holderFields h) && unkOKFields P S (S.get sid).fields xs
  | _, _ => true
def unkOKList (P : Params) (S : Schema) (e : Ty) : List Val → Bool
  | [] => true
  | x :: r => unkOK P S e x && unkOKList P S e r
def unkOKEntries (P : Params) (S : Schema) (k v : Ty) : List (Val × Val) → Bool
  | [] => true
  | (a, b) :: r => unkOK P S k a && unkOK P S v b && unkOKEntries P S k v r
def unkOKFields (P : Params) (S : Schema) : List Field → List Val → Bool
  | f :: fr, x :: xr => unkOK P S f.ty x && unkOKFields P S fr xr
  | _, _ => true
end

/-- normal form at the top level (`DecodeObject` does not re-initialise its destination), holders kept -/
def normTopH (S : Schema) (sid : Nat) : Val → Val → Val
  | .st xs h, .st ds h' =>
      .st (normFieldsH S (S.get sid) (S.get sid).fields xs ds)
        (if (S.get sid).hasHolder && h.length > 0 then h else h')
  | _, d => d

theorem toWireH_tag (S : Schema) (v : Val) (ty : Ty) (hn : nilOK ty v = true) (ht : hasTy S ty v = true) :
    (toWireH S ty v).tag = ty.wire := by
  refine hasTy_cases (mv := fun t v => nilOK t v = true → (toWireH S t v).tag = t.wire)
    ?sc ?str ?bin ?nilp ?ptr ?lst ?mp ?st ty v ht hn
  case sc =>
    intro k n hk hb _ _
    exact scalarTVal_tag k n hk hb
  case str | bin | mp | st => intros; rfl
  case nilp =>
    intro e hnil
    cases e with
    | strct sid => rfl
    | _ => cases hnil
  case ptr =>
    intro e v he _ ih _
    exact ih (nilOK_of_notPtr he v)
  case lst => intro s e n xs _; cases s <;> rfl

theorem max_le_max {a b c d : Nat} (h1 : a ≤ b) (h2 : c ≤ d) : max a c ≤ max b d :=
  Nat.max_le.2 ⟨Nat.le_trans h1 (Nat.le_max_left ..), Nat.le_trans h2 (Nat.le_max_right ..)⟩

theorem depth_toWire_le (S : Schema) :
    (∀ (t : Ty) (v : Val), hasTy S t v = true → depth (toWire S t v) ≤ depth (toWireH S t v)) ∧
    (∀ (fs : List Field) (xs : List Val), hasTyFields S fs xs = true →
      ∀ sd : SDesc, depthFields (toWireFields S sd fs xs) ≤ depthFields (toWireFieldsH S sd fs xs)) ∧
    (∀ (k v : Ty) (es : List (Val × Val)), hasTyEntries S k v es = true →
      depthEntries (toWireEntries S k v es) ≤ depthEntries (toWireEntriesH S k v es)) ∧
    (∀ (e : Ty) (xs : List Val), hasTyList S e xs = true →
      depthList (toWireList S e xs) ≤ depthList (toWireListH S e xs)) := by
  apply hasTy_induct (S := S)
  case sc | str | bin | lnil | enil | fnil => intros; exact Nat.le_refl _
  case nilp => intro e; cases e <;> exact Nat.le_refl _
  case ptr => intro e v _ _ ih; exact ih
  case lst => intro s e n xs _ _ ih; cases s <;> exact Nat.add_le_add_right ih 1
  case mp => intro k v n es _ _ ih; exact Nat.add_le_add_right ih 1
  case st =>
    intro sid fs h _ _ ih
    simp only [toWire, toWireH, depth, depthFields_append]
    exact Nat.add_le_add_right (Nat.le_trans (ih (S.get sid)) (Nat.le_max_left ..)) 1
  case lcons => intro e x r _ _ ihx ihr; exact max_le_max ihx ihr
  case econs => intro k v a b r _ _ _ iha ihb ihr; exact max_le_max (max_le_max iha ihb) ihr
  case fcons =>
    intro f fr x xr _ _ ihx ihr sd
    by_cases hw : fieldWritten sd f x = true
    · simp only [toWireFields, toWireFieldsH, hw, ↓reduceIte, depthFields]
      exact max_le_max ihx (ihr sd)
    · simpa only [toWireFields, toWireFieldsH, hw, Bool.false_eq_true, ↓reduceIte] using ihr sd

theorem toWireH_all (S : Schema) (hS : S.ok = true) :
    (∀ (ty : Ty) (v : Val), ty.ok = true → hasTy S ty v = true → nilOK ty v = true →
      (holdersOK v = true → refEnc S ty v = ser (toWireH S ty v)) ∧
      (fitH v = true → wf (toWireH S ty v) = true)) ∧
    (∀ (fs : List Field) (xs : List Val), (∀ f ∈ fs, f.ok = true) → hasTyFields S fs xs = true → ∀ sd : SDesc,
      (holdersOKList xs = true → refEncFields S sd fs xs = serFields (toWireFieldsH S sd fs xs)) ∧
      (fitHList xs = true → wfFields (toWireFieldsH S sd fs xs) = true)) ∧
    (∀ (k v : Ty) (es : List (Val × Val)), (k.ok = true ∧ (!k.isPtr || k.isStructPtr) = true) →
      (v.ok = true ∧ (!v.isPtr || v.isStructPtr) = true) → hasTyEntries S k v es = true →
      (holdersOKEntries es = true → refEncEntries S k v es = serEntries (toWireEntriesH S k v es)) ∧
      (fitHEntries es = true → wfEntries k.wire v.wire (toWireEntriesH S k v es) = true)) ∧
    (∀ (e : Ty) (xs : List Val), e.ok = true → (!e.isPtr || e.isStructPtr) = true → hasTyList S e xs = true →
      (holdersOKList xs = true → refEncList S e xs = serList (toWireListH S e xs)) ∧
      (fitHList xs = true → wfList e.wire (toWireListH S e xs) = true)) := by
  apply typed_induct hS
  case sc =>
    intro k n hk hb ht _
    exact ⟨fun _ => (scalarTVal_ser k n hk hb).symm, fun _ => scalarTVal_wf k n hk hb ht⟩
  case str | bin => intros; exact ⟨fun _ => by simp [refEnc, toWireH, ser, encStr], fun hf => hf⟩
  case nilB => intro k hnil; cases hnil
  case nilS => intro sid _; simp [refEnc, toWireH, ser, serFields, wf, wfFields]
  case ptr =>
    intro e v _ he _ ih _
    exact ih (nilOK_of_notPtr he v)
  case lst =>
    intro s e n xs _ _ _ _ ih _
    refine ⟨fun hho => ?_, fun hf => ?_⟩
    · cases s <;> simp [refEnc, toWireH, ser, ih.1 hho, toWireListH_length]
    · simp only [fitH, Bool.and_eq_true, decide_eq_true_eq] at hf
      cases s <;> simp [toWireH, wf, codeOK_wire, ih.2 hf.2, toWireListH_length, hf.1]
  case mp =>
    intro k v n es _ _ _ _ ih _
    refine ⟨fun hho => ?_, fun hf => ?_⟩
    · simp [refEnc, toWireH, ser, ih.1 hho, toWireEntriesH_length]
    · simp only [fitH, Bool.and_eq_true, decide_eq_true_eq] at hf
      simp [toWireH, wf, codeOK_wire, ih.2 hf.2, toWireEntriesH_length, hf.1]
  case st =>
    intro sid fs h _ _ ih _
    refine ⟨fun hho => ?_, fun hf => ?_⟩
    · simp only [holdersOK, Bool.and_eq_true, decide_eq_true_eq] at hho
      simp [refEnc, toWireH, ser, (ih (S.get sid)).1 hho.2, serFields_append, hho.1]
    · simp only [fitH, Bool.and_eq_true] at hf
      simp only [toWireH, wf, wfFields_append, Bool.and_eq_true]
      exact ⟨(ih (S.get sid)).2 hf.2, hf.1.2⟩
  case lnil => intro e; simp [refEncList, toWireListH, serList, wfList]
  case lcons =>
    intro e x r _ hp htx _ ihx ihr
    have hnil := nilOK_of_elem hp x
    refine ⟨fun hho => ?_, fun hf => ?_⟩
    · simp only [holdersOKList, Bool.and_eq_true] at hho
      simp [refEncList, toWireListH, serList, (ihx hnil).1 hho.1, ihr.1 hho.2]
    · simp only [fitHList, Bool.and_eq_true] at hf
      simp [toWireListH, wfList, (ihx hnil).2 hf.1, toWireH_tag S x e hnil htx, ihr.2 hf.2]
  case enil => intro k v; simp [refEncEntries, toWireEntriesH, serEntries, wfEntries]
  case econs =>
    intro k v a b r hk hv hta htb _ iha ihb ihr
    have hna := nilOK_of_elem hk.2 a
    have hnb := nilOK_of_elem hv.2 b
    refine ⟨fun hho => ?_, fun hf => ?_⟩
    · simp only [holdersOKEntries, Bool.and_eq_true] at hho
      simp [refEncEntries, toWireEntriesH, serEntries, (iha hna).1 hho.1.1, (ihb hnb).1 hho.1.2, ihr.1 hho.2]
    · simp only [fitHEntries, Bool.and_eq_true] at hf
      simp [toWireEntriesH, wfEntries, (iha hna).2 hf.1.1, (ihb hnb).2 hf.1.2, toWireH_tag S a k hna hta,
        toWireH_tag S b v hnb htb, ihr.2 hf.2]
  case fnil => intro sd; simp [refEncFields, toWireFieldsH, serFields, wfFields]
  case fcons =>
    intro f fr x xr hfok htx _ ihx ihr sd
    by_cases hw : fieldWritten sd f x = true
    · have hnil := nilOK_of_written hfok hw
      refine ⟨fun hho => ?_, fun hf => ?_⟩
      · simp only [holdersOKList, Bool.and_eq_true] at hho
        simp only [refEncFields, toWireFieldsH, serFields, hw, ↓reduceIte, (ihr sd).1 hho.2, (ihx hnil).1 hho.1,
          toWireH_tag S x f.ty hnil htx, List.cons_append, List.append_assoc]
      · simp only [fitHList, Bool.and_eq_true] at hf
        have : f.id < 65536 := by simp only [Field.ok, Bool.and_eq_true, decide_eq_true_eq] at hfok; exact hfok.2
        simp only [toWireFieldsH, hw, ↓reduceIte, wfFields, (ihr sd).2 hf.2, (ihx hnil).2 hf.1, this,
          decide_true, Bool.and_self]
    · simp only [refEncFields, toWireFieldsH, hw, Bool.false_eq_true, ↓reduceIte, List.nil_append]
      exact ⟨fun hho => (ihr sd).1 (Bool.and_eq_true_iff.1 hho).2, fun hf => (ihr sd).2 (Bool.and_eq_true_iff.1 hf).2⟩

theorem refEnc_eq_serH (S : Schema) (hS : S.ok = true) : ∀ (v : Val) (ty : Ty), ty.ok = true → nilOK ty v = true →
    hasTy S ty v = true → holdersOK v = true → refEnc S ty v = ser (toWireH S ty v) :=
  fun v ty hok hnil ht => ((toWireH_all S hS).1 ty v hok ht hnil).1

theorem refEncList_eq_serH (S : Schema) (hS : S.ok = true) : ∀ (xs : List Val) (e : Ty), e.ok = true →
    (!e.isPtr || e.isStructPtr) = true → hasTyList S e xs = true → holdersOKList xs = true →
    refEncList S e xs = serList (toWireListH S e xs) ∧ (toWireListH S e xs).length = xs.length :=
  fun xs e hok hp ht hho => ⟨((toWireH_all S hS).2.2.2 e xs hok hp ht).1 hho, toWireListH_length S e xs⟩

theorem refEncEntries_eq_serH (S : Schema) (hS : S.ok = true) : ∀ (es : List (Val × Val)) (k v : Ty),
    k.ok = true → v.ok = true → (!k.isPtr || k.isStructPtr) = true → (!v.isPtr || v.isStructPtr) = true →
    hasTyEntries S k v es = true → holdersOKEntries es = true →
    refEncEntries S k v es = serEntries (toWireEntriesH S k v es) ∧ (toWireEntriesH S k v es).length = es.length :=
  fun es k v hk hv hkp hvp ht hho =>
    ⟨((toWireH_all S hS).2.2.1 k v es ⟨hk, hkp⟩ ⟨hv, hvp⟩ ht).1 hho, toWireEntriesH_length S k v es⟩

theorem refEncFields_eq_serH (S : Schema) (hS : S.ok = true) : ∀ (xs : List Val) (sd : SDesc) (fs : List Field),
    (∀ f ∈ fs, f.ok = true) → hasTyFields S fs xs = true → holdersOKList xs = true →
    refEncFields S sd fs xs = serFields (toWireFieldsH S sd fs xs) :=
  fun xs sd fs hok ht => ((toWireH_all S hS).2.1 fs xs hok ht sd).1

theorem toWireH_wf (S : Schema) (hS : S.ok = true) : ∀ (v : Val) (ty : Ty), ty.ok = true → nilOK ty v = true →
    hasTy S ty v = true → fitH v = true → wf (toWireH S ty v) = true :=
  fun v ty hok hnil ht => ((toWireH_all S hS).1 ty v hok ht hnil).2

theorem toWireListH_wf (S : Schema) (hS : S.ok = true) : ∀ (xs : List Val) (e : Ty), e.ok = true →
    (!e.isPtr || e.isStructPtr) = true → hasTyList S e xs = true → fitHList xs = true →
    wfList e.wire (toWireListH S e xs) = true ∧ (toWireListH S e xs).length = xs.length :=
  fun xs e hok hp ht hf => ⟨((toWireH_all S hS).2.2.2 e xs hok hp ht).2 hf, toWireListH_length S e xs⟩

theorem toWireEntriesH_wf (S : Schema) (hS : S.ok = true) : ∀ (es : List (Val × Val)) (k v : Ty),
    k.ok = true → v.ok = true → (!k.isPtr || k.isStructPtr) = true → (!v.isPtr || v.isStructPtr) = true →
    hasTyEntries S k v es = true → fitHEntries es = true →
    wfEntries k.wire v.wire (toWireEntriesH S k v es) = true ∧ (toWireEntriesH S k v es).length = es.length :=
  fun es k v hk hv hkp hvp ht hf =>
    ⟨((toWireH_all S hS).2.2.1 k v es ⟨hk, hkp⟩ ⟨hv, hvp⟩ ht).2 hf, toWireEntriesH_length S k v es⟩

theorem toWireFieldsH_wf (S : Schema) (hS : S.ok = true) : ∀ (xs : List Val) (sd : SDesc) (fs : List Field),
    (∀ f ∈ fs, f.ok = true) → hasTyFields S fs xs = true → fitHList xs = true →
    wfFields (toWireFieldsH S sd fs xs) = true :=
  fun xs sd fs hok ht => ((toWireH_all S hS).2.1 fs xs hok ht sd).2

mutual
theorem fitH_holdersOK : ∀ v : Val, fitH v = true → holdersOK v = true
  | .st fs h, hf => by
    simp only [fitH, Bool.and_eq_true] at hf
    simp only [holdersOK, Bool.and_eq_true]
    exact ⟨hf.1.1, fitHList_holdersOK fs hf.2⟩
  | .ptr v, hf => fitH_holdersOK v hf
  | .lst _ xs, hf => by
    simp only [fitH, Bool.and_eq_true] at hf
    exact fitHList_holdersOK xs hf.2
  | .mp _ es, hf => by
    simp only [fitH, Bool.and_eq_true] at hf
    exact fitHEntries_holdersOK es hf.2
  | .sc _, _ | .str _, _ | .bin _ _, _ | .nilp, _ | .vstr _ _, _ | .vbin _ _, _ => rfl
termination_by structural x => x
theorem fitHList_holdersOK : ∀ xs : List Val, fitHList xs = true → holdersOKList xs = true
  | [], _ => rfl
  | x :: r, hf => by
    simp only [fitHList, Bool.and_eq_true] at hf
    simp only [holdersOKList, Bool.and_eq_true]
    exact ⟨fitH_holdersOK x hf.1, fitHList_holdersOK r hf.2⟩
termination_by structural x => x
theorem fitHEntries_holdersOK : ∀ es : List (Val × Val), fitHEntries es = true → holdersOKEntries es = true
  | [], _ => rfl
  | (a, b) :: r, hf => by
    simp only [fitHEntries, Bool.and_eq_true] at hf
    simp only [holdersOKEntries, Bool.and_eq_true]
    exact ⟨⟨fitH_holdersOK a hf.1.1, fitH_holdersOK b hf.1.2⟩, fitHEntries_holdersOK r hf.2⟩
termination_by structural x => x
end

/- Whatever the type.  `stripH_all` (StripH.lean) says the same of a typed value with holders, at its emptied form;
   neither gives the other: there typing is needed (on an ill-typed pair `norm` returns its argument). -/
mutual
theorem noHolder_eq (S : Schema) : ∀ (v : Val) (ty : Ty), noHolder v = true →
    toWireH S ty v = toWire S ty v ∧ ∀ d, normH S ty v d = norm S ty v d
  | .sc _, ty, _ | .str _, ty, _ | .bin _ _, ty, _ | .vstr _ _, ty, _ | .vbin _ _, ty, _ => by
    cases ty <;> exact ⟨rfl, fun _ => rfl⟩
  | .nilp, ty, _ => by
    cases ty with
    | ptr e => cases e <;> exact ⟨rfl, fun _ => rfl⟩
    | _ => exact ⟨rfl, fun _ => rfl⟩
  | .ptr v, ty, hn => by
    cases ty with
    | ptr e => simp only [toWireH, toWire, normH, norm, noHolder_eq S v e hn, implies_true, and_self]
    | _ => exact ⟨rfl, fun _ => rfl⟩
  | .lst n xs, ty, hn => by
    cases ty with
    | list s e => simp only [toWireH, toWire, normH, norm, noHolderList_eq S xs e hn, implies_true, and_self]
    | _ => exact ⟨rfl, fun _ => rfl⟩
  | .mp n es, ty, hn => by
    cases ty with
    | map k v => simp only [toWireH, toWire, normH, norm, noHolderEntries_eq S es k v hn, implies_true, and_self]
    | _ => exact ⟨rfl, fun _ => rfl⟩
  | .st fs h, ty, hn => by
    simp only [noHolder, Bool.and_eq_true, List.isEmpty_iff] at hn
    cases ty with
    | strct sid =>
      have ih := noHolderFields_eq S fs (S.get sid) (S.get sid).fields hn.2
      refine ⟨by simp only [toWireH, toWire, hn.1, holderFields_nil, List.append_nil, ih], fun d => ?_⟩
      simp only [normH, norm, hn.1]
      cases initDest S sid d with
      | st ds h0 => simp [ih]
      | _ => rfl
    | _ => exact ⟨rfl, fun _ => rfl⟩
termination_by structural x => x
theorem noHolderList_eq (S : Schema) : ∀ (xs : List Val) (e : Ty), noHolderList xs = true →
    toWireListH S e xs = toWireList S e xs ∧ normListH S e xs = normList S e xs
  | [], _, _ => ⟨rfl, rfl⟩
  | x :: r, e, hn => by
    simp only [noHolderList, Bool.and_eq_true] at hn
    simp only [toWireListH, toWireList, normListH, normList, noHolder_eq S x e hn.1, noHolderList_eq S r e hn.2,
      and_self]
termination_by structural x => x
theorem noHolderEntries_eq (S : Schema) : ∀ (es : List (Val × Val)) (k v : Ty), noHolderEntries es = true →
    toWireEntriesH S k v es = toWireEntries S k v es ∧
    ∀ acc, normEntriesH S k v es acc = normEntries S k v es acc
  | [], _, _, _ => ⟨rfl, fun _ => rfl⟩
  | (a, b) :: r, k, v, hn => by
    simp only [noHolderEntries, Bool.and_eq_true] at hn
    simp only [toWireEntriesH, toWireEntries, normEntriesH, normEntries, noHolder_eq S a k hn.1.1,
      noHolder_eq S b v hn.1.2, noHolderEntries_eq S r k v hn.2, implies_true, and_self]
termination_by structural x => x
theorem noHolderFields_eq (S : Schema) : ∀ (xs : List Val) (sd : SDesc) (fs : List Field), noHolderList xs = true →
    toWireFieldsH S sd fs xs = toWireFields S sd fs xs ∧
    ∀ ds, normFieldsH S sd fs xs ds = normFields S sd fs xs ds
  | [], _, [], _ | [], _, _ :: _, _ | _ :: _, _, [], _ => ⟨rfl, fun _ => rfl⟩
  | x :: xr, sd, f :: fr, hn => by
    simp only [noHolderList, Bool.and_eq_true] at hn
    have ihx := noHolder_eq S x f.ty hn.1
    have ihr := noHolderFields_eq S xr sd fr hn.2
    refine ⟨by simp only [toWireFieldsH, toWireFields, ihx, ihr], fun ds => ?_⟩
    cases ds with
    | nil => rfl
    | cons d dr => simp only [normFieldsH, normFields, ihx, ihr]
termination_by structural x => x
end

theorem toWireH_of_noHolder (S : Schema) : ∀ (v : Val) (ty : Ty), noHolder v = true →
    toWireH S ty v = toWire S ty v := fun v ty hn => (noHolder_eq S v ty hn).1

theorem toWireListH_of_noHolder (S : Schema) : ∀ (xs : List Val) (e : Ty), noHolderList xs = true →
    toWireListH S e xs = toWireList S e xs := fun xs e hn => (noHolderList_eq S xs e hn).1

theorem toWireEntriesH_of_noHolder (S : Schema) : ∀ (es : List (Val × Val)) (k v : Ty),
    noHolderEntries es = true → toWireEntriesH S k v es = toWireEntries S k v es :=
  fun es k v hn => (noHolderEntries_eq S es k v hn).1

theorem toWireFieldsH_of_noHolder (S : Schema) : ∀ (xs : List Val) (sd : SDesc) (fs : List Field),
    noHolderList xs = true → toWireFieldsH S sd fs xs = toWireFields S sd fs xs :=
  fun xs sd fs hn => (noHolderFields_eq S xs sd fs hn).1

theorem normH_of_noHolder (S : Schema) : ∀ (v : Val) (ty : Ty) (d : Val), noHolder v = true →
    normH S ty v d = norm S ty v d := fun v ty d hn => (noHolder_eq S v ty hn).2 d

theorem normListH_of_noHolder (S : Schema) : ∀ (xs : List Val) (e : Ty), noHolderList xs = true →
    normListH S e xs = normList S e xs := fun xs e hn => (noHolderList_eq S xs e hn).2

theorem normEntriesH_of_noHolder (S : Schema) : ∀ (es : List (Val × Val)) (k v : Ty) (acc : List (Val × Val)),
    noHolderEntries es = true → normEntriesH S k v es acc = normEntries S k v es acc :=
  fun es k v acc hn => (noHolderEntries_eq S es k v hn).2 acc

theorem normFieldsH_of_noHolder (S : Schema) : ∀ (xs : List Val) (sd : SDesc) (fs : List Field) (ds : List Val),
    noHolderList xs = true → normFieldsH S sd fs xs ds = normFields S sd fs xs ds :=
  fun xs sd fs ds hn => (noHolderFields_eq S xs sd fs hn).2 ds

theorem holderFields_eq_of_empty (h : Bytes) (he : h.isEmpty = true) :
    serFields (holderFields h) = h ∧ wfFields (holderFields h) = true := by
  obtain rfl := List.isEmpty_iff.1 he
  simp [serFields, wfFields]

end Frugal
