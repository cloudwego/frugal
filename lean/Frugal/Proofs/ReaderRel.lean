/-
  A `nocopy` string is read without touching the depth budget and any other string with it, so at the
  last level `S.clearNC` stops where `S` still reads: the two runs are compared by `Sim`, not by equality.
  Nothing else tells the two schemas apart.
-/
import Frugal.Proofs.Erase
import Frugal.Proofs.ReaderProps
import Frugal.Proofs.TypedInduct
namespace Frugal

namespace Outcome
variable {α β γ δ : Type}

/-- outcomes equal under `f`, unless the second ran out of depth -/
def Sim (f : α → γ) (o o' : Outcome α) : Prop := o' = .err .depth ∨ o.mapv f = o'.mapv f

theorem Sim.rfl {f : α → γ} {o : Outcome α} : Sim f o o := Or.inr _root_.rfl

theorem Sim.of_eq {f : α → γ} {o o' : Outcome α} (h : o.mapv f = o'.mapv f) : Sim f o o' := Or.inr h

theorem Sim.bind {f : α → γ} {g : β → δ} {o o' : Outcome α} {k k' : α → Outcome β} (h : Sim f o o')
    (hk : ∀ a a', o = .ok a → o' = .ok a' → f a = f a' → Sim g (k a) (k' a')) :
    Sim g (o.bind k) (o'.bind k') := by
  rcases h with rfl | h
  · exact Or.inl _root_.rfl
  · cases o with
    | ok a =>
      obtain ⟨a', rfl, e⟩ := mapv_eq_ok.1 h.symm
      exact hk a a' _root_.rfl _root_.rfl e
    | _ => cases o' <;> cases h <;> exact Sim.rfl

theorem Sim.mapv {f : α → γ} {g : β → δ} {o o' : Outcome α} {m m' : α → β} (h : Sim f o o')
    (hm : ∀ a a', f a = f a' → g (m a) = g (m' a')) : Sim g (o.mapv m) (o'.mapv m') :=
  h.bind fun a a' _ _ e => Or.inr (congrArg ok (hm a a' e))

theorem Sim.antisymm {f : α → γ} {o o' : Outcome α} (h : Sim f o o') (h' : Sim f o' o) :
    o.mapv f = o'.mapv f := by
  rcases h with rfl | h
  · rcases h' with rfl | h'
    · rfl
    · exact h'.symm
  · exact h

theorem Sim.ok_inv {f : α → γ} {o o' : Outcome α} {b : α} (h : Sim f o o') (h' : o' = .ok b) :
    ∃ a, o = .ok a ∧ f a = f b := by
  subst h'
  rcases h with h | h
  · cases h
  · obtain ⟨a, ha, e⟩ := mapv_eq_ok.1 h
    exact ⟨a, ha, e.symm⟩
end Outcome

open Outcome (Sim)

/-- what `SDesc.ok` asks of `nocopy` fields -/
def SDesc.ncStr (sd : SDesc) : Prop := ∀ g ∈ sd.fields, g.nocopy = true → g.ty.ok = true ∧ g.ty.tt = .string

theorem ncStr_of_ok {S : Schema} (hS : S.ok = true) (sid : Nat) : (S.get sid).ncStr := by
  intro g hg hn
  have hok := sd_fields_ok hS sid g hg
  exact ⟨Field.ok_ty hok, Field.nocopy_string hok hn⟩

section
variable (P : Params) (S : Schema) (c : Bool) (total total' fuel : Nat)

/-- what the loops of `readVal_sim` take as hypothesis: the comparison for `readVal` at the same budget -/
def ValSim : Prop := ∀ (t : Ty) (tv : TVal) (tail tail' : Nat) (dest dest' : Val), erase dest = erase dest' →
  Sim erase (readVal P S total fuel t tv tail dest) (readVal P (S.clearIf c) total' fuel t tv tail' dest')

theorem readSlot_sim (t : Ty) (x : TVal) (tail tail' : Nat) (slot slot' : Val) (hs : erase slot = erase slot')
    (hv : ∀ dest dest', erase dest = erase dest' → Sim erase (readVal P S total fuel t.deref x tail dest)
      (readVal P (S.clearIf c) total' fuel t.deref x tail' dest')) :
    Sim erase (readSlot P S total fuel t x tail slot) (readSlot P (S.clearIf c) total' fuel t x tail' slot') := by
  rw [readSlot_eq, readSlot_eq]
  by_cases hfx : specFixed t.tt > 0
  · rw [if_pos hfx, if_pos hfx]; exact Sim.rfl
  · rw [if_neg hfx, if_neg hfx]
    refine (hv _ _ ?_).mapv fun _ _ e => erase_wrapPtr_congr t e
    unfold freshTarget
    by_cases hp : t.isPtr = true
    · rw [if_pos hp, if_pos hp, clearIf_length, zeroVal_clearIf]
    · rw [if_neg hp, if_neg hp]; exact hs

/-- the one place where the two schemas differ -/
theorem readField_sim (f : Field) (v : TVal) (tail tail' : Nat) (slot slot' : Val) (hs : erase slot = erase slot')
    (hf : c = true → f.nocopy = true → f.ty.ok = true ∧ f.ty.tt = .string)
    (hv : ∀ dest dest', erase dest = erase dest' → Sim erase (readVal P S total fuel f.ty.deref v tail dest)
      (readVal P (S.clearIf c) total' fuel f.ty.deref v tail' dest')) :
    Sim erase (readField P S total fuel f v tail slot)
      (readField P (S.clearIf c) total' fuel (f.clearIf c) v tail' slot') := by
  rw [readField_eq, readField_eq]
  simp only [Field.clearIf_eq]
  by_cases hn : specFixed f.ty.tt = 0 ∧ f.nocopy = true
  · rw [if_pos hn]
    cases c
    · rw [if_pos (by simpa using hn)]
      exact (Sim.of_eq (readStr_erase _ _ _ _ _ _ _ _)).mapv fun _ _ e => erase_wrapPtr_congr f.ty e
    · -- `S.clearNC` reads the string as any other: one level of depth, then the copying `readStr`
      rw [if_neg (by simp), readSlot_eq, if_neg (by omega)]
      obtain ⟨hok, hstr⟩ := hf rfl hn.2
      cases fuel with
      | zero => exact Or.inl (by rw [readVal_zero]; rfl)
      | succ fu =>
        have hrd : ∀ d, readVal P (S.clearIf true) total' (fu + 1) f.ty.deref v tail' d =
            readStr f.ty.deref.isBinary false total' tail' v := by
          intro d
          rcases tt_string_deref f.ty hok hstr with e | e <;> rw [e, readVal_str _ _ _ rfl] <;> rfl
        rw [hrd]
        exact (Sim.of_eq (readStr_erase _ _ _ _ _ _ _ _)).mapv fun _ _ e => erase_wrapPtr_congr f.ty e
  · rw [if_neg hn, if_neg (fun h => hn ⟨h.1, (by simpa using h.2 : c = false ∧ f.nocopy = true).2⟩)]
    exact readSlot_sim P S c total total' fuel f.ty v tail tail' slot slot' hs hv

theorem readList_sim (hv : ValSim P S c total total' fuel) (et : Ty) (tail tail' : Nat) : ∀ xs : List TVal,
    Sim eraseList (readList P S total fuel et xs tail) (readList P (S.clearIf c) total' fuel et xs tail')
  | [] => by rw [readList_nil, readList_nil]; exact Sim.rfl
  | x :: r => by
    rw [readList_cons, readList_cons, clearIf_length, zeroVal_clearIf]
    exact (readSlot_sim P S c total total' fuel et x _ _ _ _ rfl (hv _ _ _ _)).bind fun v v' _ _ e =>
      (readList_sim hv et tail tail' r).mapv fun vs vs' es => by simp only [eraseList, e, es]

theorem readEntries_sim (hv : ValSim P S c total total' fuel) (kt vt : Ty) (tail tail' : Nat) :
    ∀ (es : List (TVal × TVal)) (acc acc' : List (Val × Val)),
      (∀ p ∈ acc, notView p.1 = true) → (∀ p ∈ acc', notView p.1 = true) → eraseEntries acc = eraseEntries acc' →
      Sim eraseEntries (readEntries P S total fuel kt vt es tail acc)
        (readEntries P (S.clearIf c) total' fuel kt vt es tail' acc')
  | [], acc, acc', _, _, he => by
    rw [readEntries_nil, readEntries_nil]; exact Sim.of_eq (congrArg Outcome.ok he)
  | (a, b) :: r, acc, acc', ha, ha', he => by
    rw [readEntries_cons, readEntries_cons, clearIf_length, zeroVal_clearIf, zeroVal_clearIf]
    refine (readSlot_sim P S c total total' fuel kt a _ _ _ _ rfl (hv _ _ _ _)).bind fun k k' hk hk' ek => ?_
    refine (readSlot_sim P S c total total' fuel vt b _ _ _ _ rfl (hv _ _ _ _)).bind fun v v' _ _ ev => ?_
    have nk := readSlot_notView P S total fuel kt a _ _ k hk
    have nk' := readSlot_notView P (S.clearIf c) total' fuel kt a _ _ k' hk'
    exact readEntries_sim hv kt vt tail tail' r _ _ (mapInsert_keys_notView kt acc k v ha nk)
      (mapInsert_keys_notView kt acc' k' v' ha' nk')
      (by rw [mapInsert_erase kt acc k v ha nk, mapInsert_erase kt acc' k' v' ha' nk', he, ek, ev])

theorem readFields_sim (hv : ValSim P S c total total' fuel) (sd : SDesc) (hsd : c = true → sd.ncStr)
    (tail tail' : Nat) : ∀ (fs : List (Nat × TVal)) (st st' : LoopSt), eraseSt st = eraseSt st' →
      Sim eraseSt (readFields P S total fuel sd fs tail st)
        (readFields P (S.clearIf c) total' fuel (sd.clearIf c) fs tail' st')
  | [], st, st', he => by rw [readFields_nil, readFields_nil]; exact Sim.of_eq (congrArg Outcome.ok he)
  | (id, v) :: r, st, st', he => by
    obtain ⟨e1, e2, e3⟩ := eraseSt_eq he
    have hk' := lookupKnown_clearIf c sd id v.tag
    cases hk : lookupKnown sd id v.tag with
    | none =>
      rw [hk] at hk'
      rw [readFields_unknown P S total hk, readFields_unknown P _ total' hk', clearIf_hasHolder]
      by_cases hsk : skipNeed v > P.skipDepth
      · rw [if_pos hsk, if_pos hsk]; exact Sim.rfl
      · rw [if_neg hsk, if_neg hsk]
        refine readFields_sim hv sd hsd tail tail' r _ _ ?_
        cases sd.hasHolder <;> simp only [eraseSt, e1, e2, e3, ↓reduceIte, Bool.false_eq_true]
    | some p =>
      obtain ⟨ix, f⟩ := p
      rw [hk] at hk'
      rw [readFields_known P S total hk, readFields_known P _ total' hk']
      have hslot : erase (st.fs.getD ix default) = erase (st'.fs.getD ix default) := by
        rw [← eraseList_getD, ← eraseList_getD, e1]
      refine (readField_sim P S c total total' fuel f v _ _ _ _ hslot
        (fun hc => hsd hc f (lookupKnown_mem sd id v.tag ix f hk)) (hv _ _ _ _)).bind fun x x' _ _ ex => ?_
      refine readFields_sim hv sd hsd tail tail' r _ _ ?_
      simp only [eraseSt, eraseList_set, e1, e2, e3, ex, Field.clearIf_eq]

theorem readStruct_sim (hv : ValSim P S c total total' fuel) (sid : Nat) (hsd : c = true → (S.get sid).ncStr)
    (fs : List (Nat × TVal)) (tail tail' : Nat) (dest dest' : Val) (he : erase dest = erase dest') :
    Sim erase (readStruct P S total (fuel + 1) sid fs tail dest)
      (readStruct P (S.clearIf c) total' (fuel + 1) sid fs tail' dest') := by
  by_cases hd : ∃ vs h, dest = .st vs h
  · obtain ⟨vs, h, rfl⟩ := hd
    obtain ⟨vs', rfl, evs⟩ := erase_eq_st dest' (eraseList vs) h he.symm
    rw [readStruct_st, readStruct_st, get_clearIf]
    refine (readFields_sim P S c total total' fuel hv (S.get sid) hsd _ _ fs _ _
      (by simp only [eraseSt, evs])).bind fun st st' _ _ e => ?_
    obtain ⟨e1, e2, e3⟩ := eraseSt_eq e
    rw [firstMissing_clearIf, clearIf_hasHolder, e2, e3]
    cases firstMissing (S.get sid).fields st'.seen with
    | some g => simp only [Option.map, Field.clearIf_eq]; exact Sim.rfl
    | none => exact Sim.of_eq (by simp only [Option.map, Outcome.mapv, erase, e1])
  · have hne : ∀ vs h, dest ≠ .st vs h := fun vs h e => hd ⟨vs, h, e⟩
    rw [readStruct_nonst P S total fuel sid fs tail dest hne,
      readStruct_nonst P _ total' fuel sid fs tail' dest' (erase_ne_st dest dest' he hne)]
    exact Sim.rfl
end

/-- `c = false`: the same schema twice; `c = true`: `S` and `S.clearNC` -/
theorem readVal_sim (P : Params) (S : Schema) (c : Bool) (total total' : Nat)
    (hnc : c = true → ∀ sid, (S.get sid).ncStr)
    (hdf : ∀ sid, ∀ f ∈ (S.get sid).fields, f.assigned = true → ∀ d, f.dflt = some d → plain d = true)
    (fuel : Nat) :
    ValSim P S c total total' fuel ∧
    ∀ sid fs tail tail' dest dest', erase dest = erase dest' →
      Sim erase (readStruct P S total fuel sid fs tail dest)
        (readStruct P (S.clearIf c) total' fuel sid fs tail' dest') := by
  induction fuel with
  | zero => exact ⟨fun _ _ _ _ _ _ _ => Or.inl (readVal_zero ..), fun _ _ _ _ _ _ _ => Or.inl (readStruct_zero ..)⟩
  | succ n ih =>
    refine ⟨?_, fun sid => readStruct_sim P S c total total' n ih.1 sid (fun hc => hnc hc sid)⟩
    intro t tv tail tail' dest dest' he
    rw [readVal_succ, readVal_succ]
    cases readShape t tv with
    | const o => exact Sim.rfl
    | str isBin => exact Sim.of_eq (readStr_erase _ _ _ _ _ _ _ _)
    | map kt vt es =>
      exact (readEntries_sim P S c total total' n ih.1 kt vt tail tail' es [] [] nofun nofun rfl).mapv
        fun x y e => by simp only [erase, e]
    | list et xs =>
      exact (readList_sim P S c total total' n ih.1 et tail tail' xs).mapv fun x y e => by simp only [erase, e]
    | strct sid fs =>
      simp only [ReadShape.run, initDest_clearIf]
      exact ih.2 sid fs tail tail' _ _
        (by rw [erase_initDest S sid dest (hdf sid), erase_initDest S sid dest' (hdf sid), he])

end Frugal
