/-
  One induction over the well-typed values (`append_eq_all`); what the regenerated tables contribute is in
  `scalarOp_eq` (a fast-path writer) and `skip_eq` (the two skip flags).
-/
import Frugal.Proofs.ValidFacts
import Frugal.Proofs.TypedInduct
namespace Frugal

theorem base_simple (k : Kind) : specSimple (Ty.base k).tt = true := by cases k <;> rfl

theorem simpleSwitch_eq (k : Kind) (n : Nat) (hk : k ≠ .string) (hb : k ≠ .binary) :
    simpleSwitch k.tt n = encScalar k n := by
  cases k <;> first | rfl | contradiction

theorem isBinary_tt {v : Ty} (h : v.isBinary = true) : v.tt = .string := by
  unfold Ty.isBinary at h
  split at h
  · rfl
  · cases h

theorem scalarOp_eq (S : Schema) (w : WOp) (e : Ty) (x : Val) (hw : w.isRec = false)
    (hok : opOK e.tt w = true) (hp : (!e.isPtr || e.isStructPtr) = true) (ht : hasTy S e x = true) :
    runScalarOp w x = refEnc S e x := by
  have hx : w = expectedOp e.tt ∨ (e.tt = .bool ∧ w = .boolNorm) := by
    simpa only [opOK, hw, Bool.false_or, Bool.or_eq_true, beq_iff_eq, Bool.and_eq_true] using hok
  -- the specification sends structs and containers back to `appendAny`
  have disp : ∀ (t : TT) {Q : Prop}, (w = expectedOp t ∨ (t = .bool ∧ w = .boolNorm)) →
      expectedOp t = .dispatch → t ≠ .bool → Q := by
    intro t Q hx ht hb
    rcases hx with rfl | ⟨h, _⟩
    · rw [ht] at hw
      cases hw
    · exact absurd h hb
  refine hasTy_cases (mv := fun e x => (w = expectedOp e.tt ∨ (e.tt = .bool ∧ w = .boolNorm)) →
    (!e.isPtr || e.isStructPtr) = true → runScalarOp w x = refEnc S e x)
    ?sc ?str ?bin ?nilp ?ptr ?lst ?mp ?st e x ht hx hp
  case sc =>
    intro k n hk hb ht hx _
    rcases hx with rfl | ⟨hk', rfl⟩
    · cases k <;> first | rfl | exact absurd rfl hk | exact absurd rfl hb
    · cases k with
      | bool =>
        -- a valid Go bool is 0 or 1: normalising it changes nothing
        simp only [hasTy, decide_eq_true_eq] at ht
        rcases (by omega : n = 0 ∨ n = 1) with rfl | rfl <;> rfl
      | _ => cases hk'
  case str | bin =>
    intros
    rcases ‹_ ∨ _› with rfl | ⟨h, _⟩
    · rfl
    · cases h
  case nilp =>
    intro e hx hp
    cases e with
    | strct sid => exact disp _ hx rfl nofun
    | _ => cases hp
  case ptr =>
    intro e v _ _ _ hx hp
    cases e with
    | strct sid => exact disp _ hx rfl nofun
    | _ => cases hp
  case lst =>
    intro s e n xs hx _
    cases s <;> exact disp _ hx rfl nofun
  case mp => exact fun k v n es hx _ => disp _ hx rfl nofun
  case st => exact fun sid fs h hx _ => disp _ hx rfl nofun

theorem skipNil_eq {P : Params} (h : P.valid = true) (f : Field) :
    canSkipNil P f = (f.req == .optional && (f.ty.isPtr || f.ty.isBinary || f.ty.isContainer)) := by
  unfold canSkipNil
  rw [container_eq h]
  -- the container tags are those of the container types; a pointer skips on nil whatever it points to
  generalize f.ty = t
  cases t with
  | base k => cases k <;> rfl
  | strct s => rfl
  | list s e => cases s <;> rfl
  | map k v => rfl
  | ptr e => rfl

/-- the field-skipping logic of the code is the `fieldWritten` predicate of the specification -/
theorem skip_eq {P : Params} (h : P.valid = true) (sd : SDesc) (f : Field) (x : Val) :
    (!(canSkipNil P f && isNilWord x) && !(canSkipDefault sd f && goEqual f.ty.tt f.default x)) =
      fieldWritten sd f x := by
  rw [skipNil_eq h]
  simp only [fieldWritten, canSkipDefault, Bool.and_assoc]

theorem written_of_required (sd : SDesc) (f : Field) (x : Val) (h : f.req = .required) :
    fieldWritten sd f x = true := by
  simp [fieldWritten, h]

theorem elemWrite_eq {P : Params} {S : Schema} {w : WOp} {e : Ty} {x : Val}
    (hw : opOK e.tt w = true) (hp : (!e.isPtr || e.isStructPtr) = true) (ht : hasTy S e x = true)
    (ih : appendAny P S e x = refEnc S e x) :
    (if w.isRec = true then appendAny P S e x else runScalarOp w x) = refEnc S e x := by
  cases hr : w.isRec with
  | true => rw [if_pos rfl, ih]
  | false => rw [if_neg Bool.false_ne_true, scalarOp_eq S w e x hr hw hp ht]

theorem appendFields_cons {P : Params} (hP : P.valid = true) (S : Schema) (sd : SDesc) {f : Field}
    {fr : List Field} {x : Val} {xr : List Val} (hx : appendAny P S f.ty x = refEnc S f.ty x)
    (hr : appendFields P S sd fr xr = refEncFields S sd fr xr) :
    appendFields P S sd (f :: fr) (x :: xr) = refEncFields S sd (f :: fr) (x :: xr) := by
  simp only [appendFields, refEncFields, hr, ← skip_eq hP sd f x, hx]
  cases canSkipNil P f && isNilWord x <;>
    cases canSkipDefault sd f && goEqual f.ty.tt f.default x <;> rfl

theorem append_eq_all {P : Params} (hP : P.valid = true) (S : Schema) (hS : S.ok = true) :
    (∀ (ty : Ty) (v : Val), ty.ok = true → hasTy S ty v = true → appendAny P S ty v = refEnc S ty v) ∧
    (∀ (fs : List Field) (xs : List Val), (∀ f ∈ fs, f.ok = true) → hasTyFields S fs xs = true →
      ∀ sd, appendFields P S sd fs xs = refEncFields S sd fs xs) ∧
    (∀ (k v : Ty) (es : List (Val × Val)), (k.ok = true ∧ (!k.isPtr || k.isStructPtr) = true) →
      (v.ok = true ∧ (!v.isPtr || v.isStructPtr) = true) → hasTyEntries S k v es = true →
      ∀ kw vw, opOK k.tt kw = true → opOK v.tt vw = true →
        appendEntries P S kw vw k v es = refEncEntries S k v es) ∧
    (∀ (e : Ty) (xs : List Val), e.ok = true → (!e.isPtr || e.isStructPtr) = true →
      hasTyList S e xs = true → ∀ w, opOK e.tt w = true → appendElems P S w e xs = refEncList S e xs) := by
  have hstr : P.simple TT.string = true := (simple_eq hP _).trans rfl
  refine typed_induct hS ?sc ?str ?bin ?nilB ?nilS ?ptr ?lst ?mp ?st ?lnil ?lcons ?enil ?econs ?fnil ?fcons
  case sc =>
    intro k n hk hb _
    rw [appendAny, refEnc, simple_eq hP, base_simple, if_pos rfl]
    exact simpleSwitch_eq k n hk hb
  case str | bin =>
    intros
    simp only [appendAny, refEnc, Ty.tt, Kind.tt, hstr, Bool.and_self, beq_self_eq_true, if_true]
  case nilB =>
    intro k
    cases k <;> rfl
  case nilS => exact fun sid => rfl
  case ptr => exact fun e v _ _ _ ih => ih
  case lst =>
    intro s e n xs _ _ _ _ ih
    simp only [appendAny, refEnc, ih _ (list_ok hP e.tt)]
  case mp =>
    intro k v n es _ _ _ _ ih
    have hm := map_ok hP k.tt v.tt v.isBinary isBinary_tt
    simp only [appendAny, refEnc, ih _ _ hm.1 hm.2]
  case st =>
    intro sid fs h hh _ ih
    simp only [appendAny, refEnc, ih]
    rcases Bool.or_eq_true .. ▸ hh with hh | hh
    · rw [hh, if_pos rfl]
    · rw [List.isEmpty_iff.mp hh, ite_self]
  case lnil => exact fun e w _ => rfl
  case lcons =>
    intro e x r _ hp ht _ ihx ihr w hw
    simp only [appendElems, refEncList, ihr w hw, elemWrite_eq hw hp ht ihx]
  case enil => exact fun k v kw vw _ _ => rfl
  case econs =>
    intro k v a b r hk hv hta htb _ iha ihb ihr kw vw hkw hvw
    simp only [appendEntries, refEncEntries, ihr kw vw hkw hvw, elemWrite_eq hkw hk.2 hta iha,
      elemWrite_eq hvw hv.2 htb ihb]
  case fnil => exact fun sd => rfl
  case fcons => exact fun f fr x xr _ _ _ ihx ihr sd => appendFields_cons hP S sd ihx (ihr sd)

theorem appendAny_eq {P : Params} (hP : P.valid = true) (S : Schema) (hS : S.ok = true)
    (v : Val) (ty : Ty) : ty.ok = true → hasTy S ty v = true → appendAny P S ty v = refEnc S ty v :=
  (append_eq_all hP S hS).1 ty v

theorem appendElems_eq {P : Params} (hP : P.valid = true) (S : Schema) (hS : S.ok = true) :
    ∀ (xs : List Val) (w : WOp) (e : Ty), e.ok = true → (!e.isPtr || e.isStructPtr) = true →
      opOK e.tt w = true → hasTyList S e xs = true → appendElems P S w e xs = refEncList S e xs :=
  fun xs w e hok hp hw ht => (append_eq_all hP S hS).2.2.2 e xs hok hp ht w hw

theorem appendEntries_eq {P : Params} (hP : P.valid = true) (S : Schema) (hS : S.ok = true) :
    ∀ (es : List (Val × Val)) (kw vw : WOp) (k v : Ty), k.ok = true → v.ok = true →
      (!k.isPtr || k.isStructPtr) = true → (!v.isPtr || v.isStructPtr) = true →
      opOK k.tt kw = true → opOK v.tt vw = true → hasTyEntries S k v es = true →
      appendEntries P S kw vw k v es = refEncEntries S k v es :=
  fun es kw vw k v hk hv hkp hvp hkw hvw ht =>
    (append_eq_all hP S hS).2.2.1 k v es ⟨hk, hkp⟩ ⟨hv, hvp⟩ ht kw vw hkw hvw

/-- not a projection of `append_eq_all`: its own recursion over the fields, asking `f.ty.ok` only -/
theorem appendFields_eq {P : Params} (hP : P.valid = true) (S : Schema) (hS : S.ok = true) :
    ∀ (xs : List Val) (sd : SDesc) (fs : List Field), (∀ f ∈ fs, f.ty.ok = true) →
      hasTyFields S fs xs = true → appendFields P S sd fs xs = refEncFields S sd fs xs
  | [], _, [], _, _ => rfl
  | [], _, _ :: _, _, ht => by cases ht
  | _ :: _, _, [], _, ht => by cases ht
  | x :: xr, sd, f :: fr, hok, ht => by
    simp only [hasTyFields, Bool.and_eq_true] at ht
    exact appendFields_cons hP S sd (appendAny_eq hP S hS x f.ty (hok f (List.mem_cons_self ..)) ht.1)
      (appendFields_eq hP S hS xr sd fr (fun g hg => hok g (List.mem_cons_of_mem _ hg)) ht.2)

end Frugal
