/- `knownOnly` is only defined here: that the recognised fields are read as if the others were not there
   is in KnownOnly.lean. -/
import Frugal.Proofs.ReaderInd
namespace Frugal

/-- the bytes of the fields of a message that the schema does not recognise, in message order -/
def unknownBytes (sd : SDesc) : List (Nat × TVal) → Bytes
  | [] => []
  | (id, v) :: r => (if (lookupKnown sd id v.tag).isNone then serField id v else []) ++ unknownBytes sd r

/-- the ids of the schema fields that occur in the message with their declared wire type -/
def knownIds (sd : SDesc) : List (Nat × TVal) → List Nat
  | [] => []
  | (id, v) :: r => (match lookupKnown sd id v.tag with
      | some (_, f) => [f.id]
      | none => []) ++ knownIds sd r

/-- the indexes of the destination fields the message writes -/
def writtenIxs (sd : SDesc) : List (Nat × TVal) → List Nat
  | [] => []
  | (id, v) :: r => (match lookupKnown sd id v.tag with
      | some (ix, _) => [ix]
      | none => []) ++ writtenIxs sd r

/-- the message without the fields the schema does not recognise -/
def knownOnly (sd : SDesc) : List (Nat × TVal) → List (Nat × TVal)
  | [] => []
  | (id, v) :: r => if (lookupKnown sd id v.tag).isNone then knownOnly sd r else (id, v) :: knownOnly sd r

/-- the fields of a message that the schema does not recognise, in message order -/
def unknownOnly (sd : SDesc) : List (Nat × TVal) → List (Nat × TVal)
  | [] => []
  | (id, v) :: r => if (lookupKnown sd id v.tag).isNone then (id, v) :: unknownOnly sd r else unknownOnly sd r

theorem unknownBytes_eq_ser (sd : SDesc) : ∀ fs, unknownBytes sd fs = serFields (unknownOnly sd fs)
  | [] => rfl
  | (id, v) :: r => by
    simp only [unknownBytes, unknownOnly]
    cases h : (lookupKnown sd id v.tag).isNone
    · simp [unknownBytes_eq_ser sd r]
    · simp [unknownBytes_eq_ser sd r, serFields, serField]

theorem unknownOnly_eq_filter (sd : SDesc) : ∀ fs,
    unknownOnly sd fs = fs.filter fun p => (lookupKnown sd p.1 p.2.tag).isNone
  | [] => rfl
  | (id, v) :: r => by
    rw [unknownOnly, List.filter_cons, unknownOnly_eq_filter sd r]

theorem unknownOnly_sublist (sd : SDesc) (fs : List (Nat × TVal)) : (unknownOnly sd fs).Sublist fs :=
  unknownOnly_eq_filter sd fs ▸ List.filter_sublist

theorem knownOnly_sublist (sd : SDesc) : ∀ fs, (knownOnly sd fs).Sublist fs
  | [] => .slnil
  | (id, v) :: r => by
    simp only [knownOnly]
    split
    · exact (knownOnly_sublist sd r).cons _
    · exact (knownOnly_sublist sd r).cons_cons _

theorem mem_unknownOnly (sd : SDesc) (id : Nat) (v : TVal) (fs : List (Nat × TVal)) :
    (id, v) ∈ unknownOnly sd fs ↔ (id, v) ∈ fs ∧ (lookupKnown sd id v.tag).isNone = true := by
  rw [unknownOnly_eq_filter, List.mem_filter]

theorem forall_mem_getD {α} {q : α → Prop} {xs : List α} {d : α} (i : Nat) (h : ∀ x ∈ xs, q x) (hd : q d) :
    q (xs.getD i d) := by
  rw [List.getD_eq_getElem?_getD]
  cases hi : xs[i]? with
  | none => exact hd
  | some v => exact h v (List.mem_of_getElem? hi)

theorem forall_mem_set {α} {q : α → Prop} {xs : List α} (i : Nat) {x : α} (h : ∀ y ∈ xs, q y) (hx : q x) :
    ∀ y ∈ xs.set i x, q y :=
  fun y hy => (List.mem_or_eq_of_mem_set hy).elim (h y) (· ▸ hx)

theorem findField_sound : ∀ (fs : List Field) (id k ix : Nat) (f : Field),
    findField fs id k = some (ix, f) → fs[ix - k]? = some f ∧ k ≤ ix
  | [], _, _, _, _, h => by cases h
  | g :: r, id, k, ix, f, h => by
    simp only [findField] at h
    split at h
    · simp only [Option.some.injEq, Prod.mk.injEq] at h
      obtain ⟨rfl, rfl⟩ := h
      simp
    · have := findField_sound r id (k + 1) ix f h
      have hk : ix - k = (ix - (k + 1)) + 1 := by omega
      rw [hk, List.getElem?_cons_succ]
      exact ⟨this.1, by omega⟩

theorem lookupKnown_getElem (sd : SDesc) (id tag ix : Nat) (f : Field)
    (h : lookupKnown sd id tag = some (ix, f)) : sd.fields[ix]? = some f ∧ f.ty.wire = tag := by
  unfold lookupKnown at h
  cases hff : findField sd.fields id 0 with
  | none => rw [hff] at h; cases h
  | some q =>
    obtain ⟨j, g⟩ := q
    rw [hff] at h
    dsimp only at h
    by_cases hw : g.ty.wire = tag
    · rw [if_pos hw] at h
      cases h
      exact ⟨(findField_sound sd.fields id 0 _ _ hff).1, hw⟩
    · rw [if_neg hw] at h; cases h

theorem lookupKnown_mem (sd : SDesc) (id tag ix : Nat) (f : Field)
    (hk : lookupKnown sd id tag = some (ix, f)) : f ∈ sd.fields :=
  List.mem_of_getElem? (lookupKnown_getElem sd id tag ix f hk).1

theorem findField_skip (pre : List Field) (f : Field) (fr : List Field) (ix : Nat)
    (h : ∀ g ∈ pre, g.id ≠ f.id) :
    findField (pre ++ f :: fr) f.id ix = some (ix + pre.length, f) := by
  induction pre generalizing ix with
  | nil => simp [findField]
  | cons g pre ih =>
    have hg : g.id ≠ f.id := h g (List.mem_cons_self ..)
    simp only [List.cons_append, findField, hg, ↓reduceIte]
    rw [ih (ix + 1) (fun x hx => h x (List.mem_cons_of_mem _ hx))]
    simp only [List.length_cons]
    congr 2
    omega

theorem lookupKnown_at (sd : SDesc) (pre : List Field) (f : Field) (fr : List Field)
    (hsd : sd.fields = pre ++ f :: fr) (hpw : sd.fields.Pairwise (fun a b => a.id ≠ b.id)) :
    lookupKnown sd f.id f.ty.wire = some (pre.length, f) := by
  unfold lookupKnown
  rw [hsd] at hpw ⊢
  have := (List.pairwise_append.1 hpw).2.2
  rw [findField_skip pre f fr 0 (fun g hg => this g hg f (List.mem_cons_self ..))]
  simp

theorem readFields_spec (P : Params) (S : Schema) (total fuel : Nat) (sd : SDesc) :
    ∀ (fs : List (Nat × TVal)) (tail : Nat) (st st' : LoopSt),
      readFields P S total fuel sd fs tail st = .ok st' →
      st'.unk = st.unk ++ (if sd.hasHolder then unknownBytes sd fs else []) ∧
      (∀ i, i ∈ st'.seen ↔ i ∈ st.seen ∨ i ∈ knownIds sd fs) ∧
      (∀ j, j ∉ writtenIxs sd fs → st'.fs.getD j default = st.fs.getD j default)
  | [], tail, st, st', h => by
    rw [readFields_nil] at h
    cases h
    simp [unknownBytes, knownIds, writtenIxs]
  | (id, v) :: r, tail, st, st', h => by
    cases hk : lookupKnown sd id v.tag with
    | none =>
      rw [readFields_unknown P S total hk] at h
      obtain ⟨_, h⟩ := Outcome.ok_of_ite h nofun
      obtain ⟨i1, i2, i3⟩ := readFields_spec P S total fuel sd r tail _ st' h
      refine ⟨?_, ?_, ?_⟩
      · rw [i1]
        cases sd.hasHolder <;> simp [unknownBytes, hk]
      · intro i; rw [i2]
        cases sd.hasHolder <;> simp [knownIds, hk]
      · intro j hj
        have : j ∉ writtenIxs sd r := by simpa [writtenIxs, hk] using hj
        rw [i3 j this]
        cases sd.hasHolder <;> rfl
    | some p =>
      obtain ⟨ix, f⟩ := p
      rw [readFields_known P S total hk] at h
      obtain ⟨x, _, h⟩ := Outcome.bind_eq_ok.1 h
      obtain ⟨i1, i2, i3⟩ := readFields_spec P S total fuel sd r tail _ st' h
      refine ⟨?_, ?_, ?_⟩
      · rw [i1]; simp [unknownBytes, hk]
      · intro i; rw [i2]
        simp only [knownIds, hk, List.mem_cons, List.singleton_append]
        exact or_assoc.trans or_left_comm
      · intro j hj
        have hj' : j ≠ ix ∧ j ∉ writtenIxs sd r := by simpa [writtenIxs, hk] using hj
        rw [i3 j hj'.2]
        simp only [List.getD_eq_getElem?_getD]
        rw [List.getElem?_set_ne (Ne.symm hj'.1)]

/-- C11: the holder receives exactly the bytes of the unrecognised fields (unknown id, or known id with
    another wire type), in message order -/
theorem holder_content (P : Params) (S : Schema) (total fuel : Nat) (sd : SDesc) (fs : List (Nat × TVal))
    (tail : Nat) (vs : List Val) (st' : LoopSt) (hh : sd.hasHolder = true)
    (h : readFields P S total fuel sd fs tail { fs := vs } = .ok st') : st'.unk = unknownBytes sd fs := by
  simpa [hh] using (readFields_spec P S total fuel sd fs tail _ st' h).1

theorem no_holder_drop (P : Params) (S : Schema) (total fuel : Nat) (sd : SDesc) (fs : List (Nat × TVal))
    (tail : Nat) (vs : List Val) (st' : LoopSt) (hh : sd.hasHolder = false)
    (h : readFields P S total fuel sd fs tail { fs := vs } = .ok st') : st'.unk = [] := by
  simpa [hh] using (readFields_spec P S total fuel sd fs tail _ st' h).1

/-- C09: the presence record is exactly the fields that occurred with their declared wire type -/
theorem seen_exact (P : Params) (S : Schema) (total fuel : Nat) (sd : SDesc) (fs : List (Nat × TVal))
    (tail : Nat) (vs : List Val) (st' : LoopSt)
    (h : readFields P S total fuel sd fs tail { fs := vs } = .ok st') (i : Nat) :
    i ∈ st'.seen ↔ i ∈ knownIds sd fs := by
  simpa using (readFields_spec P S total fuel sd fs tail _ st' h).2.1 i

theorem untouched (P : Params) (S : Schema) (total fuel : Nat) (sd : SDesc) (fs : List (Nat × TVal))
    (tail : Nat) (vs : List Val) (st' : LoopSt)
    (h : readFields P S total fuel sd fs tail { fs := vs } = .ok st') (j : Nat) (hj : j ∉ writtenIxs sd fs) :
    st'.fs.getD j default = vs.getD j default :=
  (readFields_spec P S total fuel sd fs tail _ st' h).2.2 j hj

/-- C09: an error naming the first required field that did not occur; success exactly when none is missing -/
theorem required_verdict (P : Params) (S : Schema) (total fuel sid : Nat) (fs : List (Nat × TVal)) (tail : Nat)
    (vs : List Val) (h : Bytes) (st' : LoopSt)
    (hloop : readFields P S total fuel (S.get sid) fs (tail + 1) { fs := vs } = .ok st') :
    readStruct P S total (fuel + 1) sid fs tail (.st vs h) =
      match firstMissing (S.get sid).fields st'.seen with
      | some f => .err (.required f.name)
      | none => .ok (.st st'.fs (if (S.get sid).hasHolder && st'.unk.length > 0 then st'.unk else h)) := by
  rw [readStruct_st, hloop]
  rfl

theorem firstMissing_eq_find? (seen : List Nat) : ∀ fields : List Field,
    firstMissing fields seen = fields.find? fun f => f.req == .required && !seen.contains f.id
  | [] => rfl
  | f :: r => by
    rw [firstMissing, List.find?_cons, firstMissing_eq_find? seen r]
    cases f.req == .required && !seen.contains f.id <;> rfl

theorem firstMissing_none_iff (fields : List Field) (seen : List Nat) :
    firstMissing fields seen = none ↔ ∀ f ∈ fields, f.req = .required → f.id ∈ seen := by
  simp [firstMissing_eq_find?]

theorem firstMissing_some_spec (fields : List Field) (seen : List Nat) (f : Field)
    (h : firstMissing fields seen = some f) : f ∈ fields ∧ f.req = .required ∧ f.id ∉ seen := by
  rw [firstMissing_eq_find?] at h
  simpa [List.mem_of_find?_eq_some h] using List.find?_some h

end Frugal
