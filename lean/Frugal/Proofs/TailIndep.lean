/- `total` and `tail` only serve to place views, and a schema without `nocopy` fields makes none. -/
import Frugal.Proofs.ReaderProps
namespace Frugal

theorem readStr_copy_tail (isBin : Bool) (total total' tail tail' : Nat) (tv : TVal) :
    readStr isBin false total tail tv = readStr isBin false total' tail' tv := by
  cases tv <;> rfl

section
variable (P : Params) (S : Schema) (total total' : Nat)

/-- what the loops of `valTail` take as hypothesis: the statement for `readVal` at the same budget -/
def ValTail (fuel : Nat) : Prop := ∀ (t : Ty) (tv : TVal) (tail tail' : Nat) (dest : Val),
  readVal P S total fuel t tv tail dest = readVal P S total' fuel t tv tail' dest

variable {P S total total'}

theorem ValTail.readSlot {fuel : Nat} (hv : ValTail P S total total' fuel) (t : Ty) (x : TVal) (tail tail' : Nat)
    (slot : Val) : readSlot P S total fuel t x tail slot = readSlot P S total' fuel t x tail' slot := by
  rw [readSlot_eq, readSlot_eq, hv]

theorem ValTail.readField {fuel : Nat} (hv : ValTail P S total total' fuel) (f : Field) (v : TVal)
    (tail tail' : Nat) (slot : Val) (hnc : f.nocopy = false) :
    readField P S total fuel f v tail slot = readField P S total' fuel f v tail' slot := by
  have hn : ¬ (specFixed f.ty.tt = 0 ∧ f.nocopy = true) := by rw [hnc]; exact fun h => Bool.noConfusion h.2
  rw [readField_eq, readField_eq, if_neg hn, if_neg hn]
  exact hv.readSlot f.ty v tail tail' slot

theorem ValTail.readList {fuel : Nat} (hv : ValTail P S total total' fuel) (et : Ty) (tail tail' : Nat) :
    ∀ xs : List TVal, readList P S total fuel et xs tail = readList P S total' fuel et xs tail'
  | [] => by rw [readList_nil, readList_nil]
  | x :: r => by
    rw [readList_cons, readList_cons, hv.readList et tail tail' r,
      hv.readSlot et x _ ((serList r).length + tail')]

theorem ValTail.readEntries {fuel : Nat} (hv : ValTail P S total total' fuel) (kt vt : Ty) (tail tail' : Nat) :
    ∀ (es : List (TVal × TVal)) (acc : List (Val × Val)),
      readEntries P S total fuel kt vt es tail acc = readEntries P S total' fuel kt vt es tail' acc
  | [], acc => by rw [readEntries_nil, readEntries_nil]
  | (a, b) :: r, acc => by
    rw [readEntries_cons, readEntries_cons,
      hv.readSlot kt a _ ((ser b).length + ((serEntries r).length + tail')),
      hv.readSlot vt b _ ((serEntries r).length + tail')]
    simp only [hv.readEntries kt vt tail tail' r]

theorem ValTail.readFields {fuel : Nat} (hv : ValTail P S total total' fuel) (sd : SDesc)
    (hsd : ∀ g ∈ sd.fields, g.nocopy = false) (tail tail' : Nat) :
    ∀ (fs : List (Nat × TVal)) (st : LoopSt),
      readFields P S total fuel sd fs tail st = readFields P S total' fuel sd fs tail' st
  | [], st => by rw [readFields_nil, readFields_nil]
  | (id, v) :: r, st => by
    cases hk : lookupKnown sd id v.tag with
    | none =>
      rw [readFields_unknown P S total hk, readFields_unknown P S total' hk, hv.readFields sd hsd tail tail' r]
    | some p =>
      rw [readFields_known P S total hk, readFields_known P S total' hk,
        hv.readField p.2 v _ ((serFields r).length + tail') _ (hsd p.2 (lookupKnown_mem sd id v.tag p.1 p.2 hk))]
      simp only [hv.readFields sd hsd tail tail' r]

variable (P S total total')
variable (hS : ∀ sid, ∀ f ∈ (S.get sid).fields, f.nocopy = false)
include hS

theorem valTail (fuel : Nat) : ValTail P S total total' fuel ∧ ∀ sid fs tail tail' dest,
    readStruct P S total fuel sid fs tail dest = readStruct P S total' fuel sid fs tail' dest := by
  induction fuel with
  | zero =>
    exact ⟨fun _ _ _ _ _ => by rw [readVal_zero, readVal_zero],
      fun _ _ _ _ _ => by rw [readStruct_zero, readStruct_zero]⟩
  | succ n ih =>
    constructor
    · intro t tv tail tail' dest
      rw [readVal_succ, readVal_succ]
      cases readShape t tv with
      | const o => rfl
      | str isBin => exact readStr_copy_tail _ _ _ _ _ _
      | map kt vt es => simp only [ReadShape.run, ih.1.readEntries kt vt tail tail' es]
      | list et xs => simp only [ReadShape.run, ih.1.readList et tail tail' xs]
      | strct sid fs => exact ih.2 sid fs tail tail' _
    · intro sid fs tail tail' dest
      by_cases hd : ∃ vs h, dest = .st vs h
      · obtain ⟨vs, h, rfl⟩ := hd
        rw [readStruct_st, readStruct_st, ih.1.readFields (S.get sid) (hS sid) (tail + 1) (tail' + 1) fs]
      · have hne : ∀ vs h, dest ≠ .st vs h := fun vs h e => hd ⟨vs, h, e⟩
        rw [readStruct_nonst P S total n sid fs tail dest hne, readStruct_nonst P S total' n sid fs tail' dest hne]

theorem readList_tail : ∀ (xs : List TVal) (fuel : Nat) (et : Ty) (tail tail' : Nat),
    readList P S total fuel et xs tail = readList P S total' fuel et xs tail' :=
  fun xs fuel et tail tail' => (valTail P S total total' hS fuel).1.readList et tail tail' xs

theorem readEntries_tail : ∀ (es : List (TVal × TVal)) (fuel : Nat) (kt vt : Ty) (tail tail' : Nat)
    (acc : List (Val × Val)),
    readEntries P S total fuel kt vt es tail acc = readEntries P S total' fuel kt vt es tail' acc :=
  fun es fuel kt vt tail tail' acc => (valTail P S total total' hS fuel).1.readEntries kt vt tail tail' es acc
end
end Frugal
