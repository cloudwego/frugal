import Frugal.Buffer
namespace Frugal

/-- `done` is everything appended so far, whether or not it still lives in the caller's array -/
structure AppInv (back : Bytes) (cap : Nat) (done : Bytes) (s : AppSt) : Prop where
  rest : s.rest = back.drop s.pre.length
  preLe : s.pre.length ≤ cap
  total : s.total = done.length
  owned : s.own = true → s.pre = done
  moved : s.own = false → s.total > cap

theorem appendChunk_inv (back : Bytes) (cap : Nat) (done : Bytes) (s : AppSt) (c : Bytes)
    (h : AppInv back cap done s) : AppInv back cap (done ++ c) (appendChunk cap s c) := by
  unfold appendChunk
  have ht := h.total
  by_cases hfit : (s.own && decide (s.total + c.length ≤ cap)) = true
  · simp only [hfit, ↓reduceIte]
    simp only [Bool.and_eq_true, decide_eq_true_eq] at hfit
    obtain ⟨hown, hle⟩ := hfit
    have hpre := h.owned hown
    refine ⟨?_, ?_, ?_, ?_, ?_⟩
    · simp only [h.rest, List.drop_drop, List.length_append]
    · simp only [List.length_append, hpre]; omega
    · simp only [List.length_append]; omega
    · intro _; simp [hpre]
    · intro hf; cases hf
  · simp only [hfit, Bool.false_eq_true, ↓reduceIte]
    refine ⟨h.rest, h.preLe, ?_, ?_, ?_⟩
    · simp only [List.length_append]; omega
    · intro hf; cases hf
    · intro _
      simp only [Bool.and_eq_true, decide_eq_true_eq, not_and, Nat.not_le] at hfit
      cases ho : s.own with
      | true => exact hfit ho
      | false => have := h.moved ho; simp only []; omega

theorem appendAll_inv (back : Bytes) (cap : Nat) (chunks : List Bytes) :
    AppInv back cap chunks.flatten (appendAll cap back chunks) := by
  unfold appendAll
  suffices ∀ (cs : List Bytes) (done : Bytes) (s : AppSt), AppInv back cap done s →
      AppInv back cap (done ++ cs.flatten) (cs.foldl (appendChunk cap) s) by
    have := this chunks [] { pre := [], rest := back, own := true, total := 0 }
      ⟨by simp, by simp, by simp, by intro _; rfl, by intro h; cases h⟩
    simpa using this
  intro cs
  induction cs with
  | nil => intro done s h; simpa using h
  | cons c t ih =>
    intro done s h
    have := ih (done ++ c) (appendChunk cap s c) (appendChunk_inv back cap done s c h)
    simpa [List.foldl_cons, List.flatten_cons, List.append_assoc] using this

/-- the caller's memory behind `len(buf)` is untouched -/
theorem encodeObject_tail_untouched (back : Bytes) (len : Nat) (chunks : List Bytes) :
    (encodeObjectM back len chunks).2.2.drop len = back.drop len := by
  have h := appendAll_inv back len chunks
  have key : ((appendAll len back chunks).pre ++ (appendAll len back chunks).rest).drop len = back.drop len := by
    rw [h.rest, List.drop_append, List.drop_drop, List.drop_eq_nil_of_le h.preLe, List.nil_append,
      Nat.add_sub_cancel' h.preLe]
  unfold encodeObjectM
  simp only
  split <;> exact key

/-- a buffer that is long enough: the first `n` bytes are the encoding, everything after them is untouched -/
theorem encodeObject_fits (back : Bytes) (len : Nat) (chunks : List Bytes)
    (hfit : chunks.flatten.length ≤ len) :
    encodeObjectM back len chunks =
      (chunks.flatten.length, true, chunks.flatten ++ back.drop chunks.flatten.length) := by
  have h := appendAll_inv back len chunks
  have hown : (appendAll len back chunks).own = true := by
    cases ho : (appendAll len back chunks).own with
    | true => rfl
    | false => have := h.moved ho; have := h.total; omega
  have hpre := h.owned hown
  unfold encodeObjectM
  simp only [h.total, h.rest, hpre]
  rw [if_neg (by omega)]

/-- a buffer that is too short: an error and `n = 0`, never a truncated message -/
theorem encodeObject_short (back : Bytes) (len : Nat) (chunks : List Bytes)
    (hshort : len < chunks.flatten.length) :
    (encodeObjectM back len chunks).1 = 0 ∧ (encodeObjectM back len chunks).2.1 = false := by
  have h := appendAll_inv back len chunks
  unfold encodeObjectM
  simp only [h.total]
  rw [if_pos hshort]
  exact ⟨rfl, rfl⟩

end Frugal
