/- `toWire v` is `toWireH (stripH v)`: each statement is the one of Holders.lean at that value (a value
   without holders is its own `stripH`). -/
import Frugal.Proofs.StripH
namespace Frugal

theorem toWire_tag (S : Schema) (v : Val) (ty : Ty) (hn : nilOK ty v = true) (ht : hasTy S ty v = true) :
    (toWire S ty v).tag = ty.wire := by
  obtain ⟨ht', hw, -⟩ := (stripH_all S).1 ty v ht
  rw [← hw]
  exact toWireH_tag S (stripH v) ty (nilOK_stripH ty v ▸ hn) ht'

theorem refEnc_eq_ser (S : Schema) (hS : S.ok = true) : ∀ (v : Val) (ty : Ty), ty.ok = true → nilOK ty v = true →
    hasTy S ty v = true → noHolder v = true → refEnc S ty v = ser (toWire S ty v) := by
  intro v ty hok hnil ht hn
  obtain ⟨-, hw, -, -, hho, -⟩ := (stripH_all S).1 ty v ht
  rw [stripH_of_noHolder v hn] at hw hho
  rw [← hw]
  exact refEnc_eq_serH S hS v ty hok hnil ht hho

theorem refEncList_eq_ser (S : Schema) (hS : S.ok = true) : ∀ (xs : List Val) (e : Ty), e.ok = true →
    (!e.isPtr || e.isStructPtr) = true → hasTyList S e xs = true → noHolderList xs = true →
    refEncList S e xs = serList (toWireList S e xs) ∧ (toWireList S e xs).length = xs.length := by
  intro xs e hok hp ht hn
  obtain ⟨-, hw, -, -, hho, -⟩ := (stripH_all S).2.2.2 e xs ht
  rw [stripHList_of_noHolder xs hn] at hw hho
  rw [← hw]
  exact refEncList_eq_serH S hS xs e hok hp ht hho

theorem refEncEntries_eq_ser (S : Schema) (hS : S.ok = true) : ∀ (es : List (Val × Val)) (k v : Ty),
    k.ok = true → v.ok = true → (!k.isPtr || k.isStructPtr) = true → (!v.isPtr || v.isStructPtr) = true →
    hasTyEntries S k v es = true → noHolderEntries es = true →
    refEncEntries S k v es = serEntries (toWireEntries S k v es) ∧ (toWireEntries S k v es).length = es.length := by
  intro es k v hk hv hkp hvp ht hn
  obtain ⟨-, hw, -, -, hho, -⟩ := (stripH_all S).2.2.1 k v es ht
  rw [stripHEntries_of_noHolder es hn] at hw hho
  rw [← hw]
  exact refEncEntries_eq_serH S hS es k v hk hv hkp hvp ht hho

theorem refEncFields_eq_ser (S : Schema) (hS : S.ok = true) : ∀ (xs : List Val) (sd : SDesc) (fs : List Field),
    (∀ f ∈ fs, f.ok = true) → hasTyFields S fs xs = true → noHolderList xs = true →
    refEncFields S sd fs xs = serFields (toWireFields S sd fs xs) := by
  intro xs sd fs hok ht hn
  obtain ⟨-, hw, -, -, hho, -⟩ := (stripH_all S).2.1 fs xs ht
  rw [stripHList_of_noHolder xs hn] at hw hho
  rw [← hw sd]
  exact refEncFields_eq_serH S hS xs sd fs hok ht hho

theorem toWire_wf (S : Schema) (hS : S.ok = true) : ∀ (v : Val) (ty : Ty), ty.ok = true → nilOK ty v = true →
    hasTy S ty v = true → sizesFit v = true → wf (toWire S ty v) = true := by
  intro v ty hok hnil ht hf
  obtain ⟨ht', hw, -, -, -, -, hfit⟩ := (stripH_all S).1 ty v ht
  rw [← hw]
  exact toWireH_wf S hS (stripH v) ty hok (nilOK_stripH ty v ▸ hnil) ht' (hfit ▸ hf)

theorem toWireList_wf (S : Schema) (hS : S.ok = true) : ∀ (xs : List Val) (e : Ty), e.ok = true →
    (!e.isPtr || e.isStructPtr) = true → hasTyList S e xs = true → sizesFitList xs = true →
    wfList e.wire (toWireList S e xs) = true ∧ (toWireList S e xs).length = xs.length := by
  intro xs e hok hp ht hf
  obtain ⟨ht', hw, -, -, -, -, hfit⟩ := (stripH_all S).2.2.2 e xs ht
  rw [← hw, ← stripHList_length xs]
  exact toWireListH_wf S hS (stripHList xs) e hok hp ht' (hfit ▸ hf)

theorem toWireEntries_wf (S : Schema) (hS : S.ok = true) : ∀ (es : List (Val × Val)) (k v : Ty),
    k.ok = true → v.ok = true → (!k.isPtr || k.isStructPtr) = true → (!v.isPtr || v.isStructPtr) = true →
    hasTyEntries S k v es = true → sizesFitEntries es = true →
    wfEntries k.wire v.wire (toWireEntries S k v es) = true ∧ (toWireEntries S k v es).length = es.length := by
  intro es k v hk hv hkp hvp ht hf
  obtain ⟨ht', hw, -, -, -, -, hfit⟩ := (stripH_all S).2.2.1 k v es ht
  rw [← hw, ← stripHEntries_length es]
  exact toWireEntriesH_wf S hS (stripHEntries es) k v hk hv hkp hvp ht' (hfit ▸ hf)

end Frugal
