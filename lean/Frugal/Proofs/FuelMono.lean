/- With DepthBound this gives C15 as stated: a message some larger budget would accept, nested more deeply
   than the bound, is rejected with the depth-limit error and not with another one. -/
import Frugal.Proofs.DepthProps
namespace Frugal

section
variable (P : Params) (S : Schema) (total : Nat)

def ValMono (fuel : Nat) : Prop := ∀ (t : Ty) (tv : TVal) (tail : Nat) (dest : Val),
  (readVal P S total fuel t tv tail dest).isDepthErr = false →
  readVal P S total (fuel + 1) t tv tail dest = readVal P S total fuel t tv tail dest

variable {P S total}

theorem ValMono.readSlot {fuel : Nat} (hv : ValMono P S total fuel) (t : Ty) (x : TVal) (tail : Nat) (slot : Val)
    (h : (readSlot P S total fuel t x tail slot).isDepthErr = false) :
    readSlot P S total (fuel + 1) t x tail slot = readSlot P S total fuel t x tail slot := by
  rw [readSlot_eq] at h ⊢
  rw [readSlot_eq]
  exact mapv_mono (ite_mono (hv _ _ _ _)) h

theorem ValMono.readList {fuel : Nat} (hv : ValMono P S total fuel) (et : Ty) (tail : Nat) :
    ∀ xs : List TVal, (readList P S total fuel et xs tail).isDepthErr = false →
      readList P S total (fuel + 1) et xs tail = readList P S total fuel et xs tail
  | [], _ => by rw [readList_nil, readList_nil]
  | x :: r, h => by
    rw [readList_cons] at h ⊢
    rw [readList_cons]
    exact bind_mono (hv.readSlot et x _ _) (fun _ => mapv_mono (hv.readList et tail r)) h

theorem ValMono.readEntries {fuel : Nat} (hv : ValMono P S total fuel) (kt vt : Ty) (tail : Nat) :
    ∀ (es : List (TVal × TVal)) (acc : List (Val × Val)),
      (readEntries P S total fuel kt vt es tail acc).isDepthErr = false →
      readEntries P S total (fuel + 1) kt vt es tail acc = readEntries P S total fuel kt vt es tail acc
  | [], _, _ => by rw [readEntries_nil, readEntries_nil]
  | (a, b) :: r, acc, h => by
    rw [readEntries_cons] at h ⊢
    rw [readEntries_cons]
    exact bind_mono (hv.readSlot kt a _ _)
      (fun _ => bind_mono (hv.readSlot vt b _ _) (fun _ => hv.readEntries kt vt tail r _)) h

theorem ValMono.readFields {fuel : Nat} (hv : ValMono P S total fuel) (sd : SDesc) (tail : Nat) :
    ∀ (fs : List (Nat × TVal)) (st : LoopSt), (readFields P S total fuel sd fs tail st).isDepthErr = false →
      readFields P S total (fuel + 1) sd fs tail st = readFields P S total fuel sd fs tail st
  | [], _, _ => by rw [readFields_nil, readFields_nil]
  | (id, v) :: r, st, h => by
    cases hk : lookupKnown sd id v.tag with
    | none =>
      rw [readFields_unknown P S total hk] at h ⊢
      rw [readFields_unknown P S total hk]
      exact ite_mono (hv.readFields sd tail r _) h
    | some p =>
      rw [readFields_known P S total hk, readField_eq] at h ⊢
      rw [readFields_known P S total hk, readField_eq]
      exact bind_mono (ite_mono (hv.readSlot p.2.ty v _ _)) (fun _ => hv.readFields sd tail r _) h

theorem ValMono.readStruct {fuel : Nat} (hv : ValMono P S total fuel) (sid : Nat) (fs : List (Nat × TVal))
    (tail : Nat) (dest : Val) (h : (readStruct P S total (fuel + 1) sid fs tail dest).isDepthErr = false) :
    readStruct P S total (fuel + 2) sid fs tail dest = readStruct P S total (fuel + 1) sid fs tail dest := by
  cases dest with
  | st vs hh =>
    rw [readStruct_st] at h ⊢
    rw [readStruct_st]
    exact bind_mono (hv.readFields (S.get sid) (tail + 1) fs _) (fun _ _ => rfl) h
  | _ => unfold Frugal.readStruct; rfl

variable (P S total)

theorem valMono (fuel : Nat) : ValMono P S total fuel ∧ ∀ sid fs tail dest,
    (readStruct P S total fuel sid fs tail dest).isDepthErr = false →
    readStruct P S total (fuel + 1) sid fs tail dest = readStruct P S total fuel sid fs tail dest := by
  induction fuel with
  | zero =>
    exact ⟨fun _ _ _ _ h => by (rw [readVal_zero] at h; cases h),
      fun _ _ _ _ h => by (rw [readStruct_zero] at h; cases h)⟩
  | succ n ih =>
    refine ⟨fun t tv tail dest h => ?_, ih.1.readStruct⟩
    rw [readVal_succ] at h ⊢
    rw [readVal_succ]
    generalize readShape t tv = sh at h ⊢
    cases sh with
    | const _ | str _ => rfl
    | map kt vt es => exact mapv_mono (ih.1.readEntries kt vt tail es _) h
    | list et xs => exact mapv_mono (ih.1.readList et tail xs) h
    | strct sid fs => exact ih.2 sid fs tail _ h

theorem readVal_mono : ∀ (tv : TVal) (fuel : Nat) (t : Ty) (tail : Nat) (dest : Val),
    (readVal P S total fuel t tv tail dest).isDepthErr = false →
    readVal P S total (fuel + 1) t tv tail dest = readVal P S total fuel t tv tail dest :=
  fun tv fuel t tail dest => (valMono P S total fuel).1 t tv tail dest

theorem readList_mono : ∀ (xs : List TVal) (fuel : Nat) (et : Ty) (tail : Nat),
    (readList P S total fuel et xs tail).isDepthErr = false →
    readList P S total (fuel + 1) et xs tail = readList P S total fuel et xs tail :=
  fun xs fuel et tail => (valMono P S total fuel).1.readList et tail xs

theorem readEntries_mono : ∀ (es : List (TVal × TVal)) (fuel : Nat) (kt vt : Ty) (tail : Nat)
    (acc : List (Val × Val)), (readEntries P S total fuel kt vt es tail acc).isDepthErr = false →
    readEntries P S total (fuel + 1) kt vt es tail acc = readEntries P S total fuel kt vt es tail acc :=
  fun es fuel kt vt tail acc => (valMono P S total fuel).1.readEntries kt vt tail es acc

theorem readStruct_mono_add (k : Nat) : ∀ (fuel sid : Nat) (fs : List (Nat × TVal)) (tail : Nat) (dest : Val),
    (readStruct P S total fuel sid fs tail dest).isDepthErr = false →
    readStruct P S total (fuel + k) sid fs tail dest = readStruct P S total fuel sid fs tail dest := by
  induction k with
  | zero => intros; rfl
  | succ k ih =>
    intro fuel sid fs tail dest h
    have h1 := ih fuel sid fs tail dest h
    rw [← h1] at h ⊢
    exact (valMono P S total (fuel + k)).2 sid fs tail dest h
end
end Frugal
