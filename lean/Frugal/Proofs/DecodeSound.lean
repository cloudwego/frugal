/-
  `DtSound` / `StSound` at budget `fuel` give them at `fuel + 1`: plain induction (`decode_sound_all`).
  Well-formedness is the lax `wf` (see SkipSound.lean).
-/
import Frugal.Proofs.SkipSound
import Frugal.Proofs.DecodeEqns
import Frugal.Proofs.ReaderProps
import Frugal.Proofs.TypedInduct
import Frugal.Proofs.ToWireDefs
namespace Frugal
open Outcome

theorem decodeFixed_sound (t : TT) (b : Bytes) (v : Val) (r : Bytes) (h : decodeFixed t b = .ok (v, r)) :
    ∃ tv, wf tv = true ∧ tv.tag = t.wire ∧ b = ser tv ++ r := by
  by_cases hf : specFixed t > 0
  · rw [decodeFixed_eq t hf, ← wire_of_fixed t hf] at h
    split at h
    · rename_i n r' hr
      cases h
      exact fixed_bytes_sound (by rw [wire_of_fixed t hf]; exact hf) hr
    · cases h
  · cases t <;> first | exact absurd (by decide) hf | cases h

theorem decodeStr_sound (isBin nocopy : Bool) (total : Nat) (b : Bytes) (v : Val) (r : Bytes)
    (h : decodeStr isBin nocopy total b = .ok (v, r)) :
    ∃ s, s.length < 2147483648 ∧ b = ser (.str s) ++ r := by
  unfold decodeStr at h
  split at h
  · cases h
  rename_i l r0 hr
  obtain ⟨e, _⟩ := rd32_inv hr
  obtain ⟨hneg, h⟩ := ok_of_ite h nofun
  by_cases hz : l = 0
  · rw [if_pos hz] at h
    cases h
    subst hz
    exact ⟨[], by decide, e⟩
  rw [if_neg hz] at h
  obtain ⟨hlen, ⟨⟩⟩ := ok_of_ite h nofun
  have hl : (r0.take l).length = l := List.length_take_of_le (by omega)
  exact ⟨r0.take l, by omega, by rw [ser, hl, List.append_assoc, List.take_append_drop]; exact e⟩

/-- what a success of the value decoder `dt` consumed is one well-formed value of the type's wire code -/
def DtSound (dt : Ty → Bytes → Val → Outcome (Val × Bytes)) : Prop :=
  ∀ t b dest v r, dt t b dest = .ok (v, r) → ∃ tv, wf tv = true ∧ tv.tag = t.wire ∧ b = ser tv ++ r

section
variable {P : Params} (S : Schema)

theorem decodeSlot_sound (dt : Ty → Bytes → Val → Outcome (Val × Bytes)) (hdt : DtSound dt) (g : Bool)
    (t : Ty) (b : Bytes) (slot v : Val) (r : Bytes) (h : decodeSlot P S dt g t b slot = .ok (v, r)) :
    ∃ tv, wf tv = true ∧ tv.tag = t.wire ∧ b = ser tv ++ r := by
  rw [decodeSlot_eq] at h
  by_cases hf : P.fixedSize t.tt > 0
  · rw [if_pos hf] at h
    obtain ⟨_, h⟩ := ok_of_ite h nofun
    obtain ⟨⟨v0, r0⟩, hd, ⟨⟩⟩ := mapv_eq_ok.1 h
    exact decodeFixed_sound t.tt b v0 _ hd
  · rw [if_neg hf] at h
    obtain ⟨⟨v0, r0⟩, hd, ⟨⟩⟩ := mapv_eq_ok.1 h
    obtain ⟨tv, w1, w2, w3⟩ := hdt _ _ _ _ _ hd
    exact ⟨tv, w1, by rw [w2, Ty.deref_wire], w3⟩

theorem listLoop_sound (de : Bytes → Outcome (Val × Bytes)) (w : Nat)
    (hde : ∀ bb v r, de bb = .ok (v, r) → ∃ tv, wf tv = true ∧ tv.tag = w ∧ bb = ser tv ++ r) :
    ∀ (n : Nat) (b : Bytes) (vs : List Val) (r : Bytes), listLoop de n b = .ok (vs, r) →
      ∃ xs, xs.length = n ∧ wfList w xs = true ∧ b = serList xs ++ r
  | 0, b, vs, r, h => by cases h; exact ⟨[], rfl, rfl, rfl⟩
  | n + 1, b, vs, r, h => by
    rw [listLoop_succ] at h
    obtain ⟨⟨v0, r0⟩, hd, h1⟩ := bind_eq_ok.1 h
    obtain ⟨⟨vs0, r1⟩, hl, ⟨⟩⟩ := mapv_eq_ok.1 h1
    obtain ⟨tv, w1, w2, rfl⟩ := hde _ _ _ hd
    obtain ⟨xs, x1, x2, rfl⟩ := listLoop_sound de w hde n r0 vs0 _ hl
    exact ⟨tv :: xs, by simp [x1], by simp [wfList, w1, w2, x2], by simp [serList]⟩

theorem mapLoop_sound (kt : Ty) (dk dv : Bytes → Outcome (Val × Bytes)) (wk wv : Nat)
    (hdk : ∀ bb v r, dk bb = .ok (v, r) → ∃ tv, wf tv = true ∧ tv.tag = wk ∧ bb = ser tv ++ r)
    (hdv : ∀ bb v r, dv bb = .ok (v, r) → ∃ tv, wf tv = true ∧ tv.tag = wv ∧ bb = ser tv ++ r) :
    ∀ (n : Nat) (b : Bytes) (acc es : List (Val × Val)) (r : Bytes), mapLoop kt dk dv n b acc = .ok (es, r) →
      ∃ xs, xs.length = n ∧ wfEntries wk wv xs = true ∧ b = serEntries xs ++ r
  | 0, b, acc, es, r, h => by cases h; exact ⟨[], rfl, rfl, rfl⟩
  | n + 1, b, acc, es, r, h => by
    rw [mapLoop_succ] at h
    obtain ⟨⟨k0, r0⟩, hk, h1⟩ := bind_eq_ok.1 h
    obtain ⟨⟨v0, r1⟩, hv, h2⟩ := bind_eq_ok.1 h1
    obtain ⟨tk, a1, a2, rfl⟩ := hdk _ _ _ hk
    obtain ⟨tv, w1, w2, rfl⟩ := hdv _ _ _ hv
    obtain ⟨xs, x1, x2, rfl⟩ := mapLoop_sound kt dk dv wk wv hdk hdv n r1 _ es r h2
    exact ⟨(tk, tv) :: xs, by simp [x1], by simp [wfEntries, a1, a2, w1, w2, x2], by simp [serEntries]⟩

theorem decodeField_sound (total : Nat) (dt : Ty → Bytes → Val → Outcome (Val × Bytes)) (hdt : DtSound dt)
    (f : Field) (hf : f.ok = true) (b : Bytes) (slot v : Val) (r : Bytes)
    (h : decodeField P S total dt f b slot = .ok (v, r)) :
    ∃ tv, wf tv = true ∧ tv.tag = f.ty.wire ∧ b = ser tv ++ r := by
  rw [decodeField_eq] at h
  by_cases hnc : (P.fixedSize f.ty.tt = 0 && f.nocopy) = true
  · rw [if_pos hnc] at h
    obtain ⟨⟨v0, r0⟩, hd, ⟨⟩⟩ := mapv_eq_ok.1 h
    obtain ⟨s, hs, e⟩ := decodeStr_sound _ _ _ _ _ _ hd
    refine ⟨.str s, by simp [wf, hs], ?_, e⟩
    simp only [Bool.and_eq_true] at hnc
    simp [TVal.tag, Ty.wire, Field.nocopy_string hf hnc.2, TT.wire]
  · rw [if_neg hnc] at h
    exact decodeSlot_sound S dt hdt true f.ty b slot v r h

variable (hP : P.valid = true) (hS : S.ok = true)
include hP

theorem skipUnknown_sound (t : Nat) (b : Bytes) (n : Nat) (h : skipUnknown P t b = .ok n) (hn : n ≤ b.length) :
    ∃ tv, wf tv = true ∧ tv.tag = t ∧ b = ser tv ++ b.drop n := by
  unfold skipUnknown at h
  split at h
  · rename_i m hskip
    cases h
    unfold skipM at hskip
    obtain ⟨_, hskip⟩ := ok_of_ite hskip nofun
    exact skipType_sound hP P.skipDepth t b n hskip hn
  · cases h
  · split at h <;> cases h

include hS

-- `hS` belongs to the statement; the proof needs the fields' `ok` only through `hsd`
set_option linter.unusedSectionVars false in
theorem fieldLoop_sound (sd : SDesc) (hsd : ∀ f ∈ sd.fields, f.ok = true) (total : Nat)
    (dt : Ty → Bytes → Val → Outcome (Val × Bytes)) (hdt : DtSound dt) :
    ∀ (cnt : Nat) (b : Bytes) (st st' : LoopSt) (r : Bytes),
      fieldLoop P S sd total dt cnt b st = .ok (st', r) →
      ∃ fs, wfFields fs = true ∧ b = serFields fs ++ [0] ++ r
  | 0, b, st, st', r, h => by cases h
  | _ + 1, [], st, st', r, h => by cases h
  | cnt + 1, tp :: r0, st, st', r, h => by
    rw [fieldLoop_succ] at h
    by_cases hz : tp = 0
    · rw [if_pos hz] at h
      cases h
      subst hz
      exact ⟨[], rfl, rfl⟩
    rw [if_neg hz] at h
    split at h
    · cases h
    rename_i fid r1 hr16
    obtain ⟨rfl, hfid⟩ := rd16_inv hr16
    -- one field value `tv` read from `r1`, the rest of the fields by induction
    have fin : ∀ (tv : TVal) (rest : Bytes) (st1 : LoopSt), wf tv = true → tv.tag = tp.toNat →
        r1 = ser tv ++ rest → fieldLoop P S sd total dt cnt rest st1 = .ok (st', r) →
        ∃ fs', wfFields fs' = true ∧ tp :: (be16 fid ++ r1) = serFields fs' ++ [0] ++ r := by
      intro tv rest st1 w1 w2 w3 hl
      obtain ⟨fs, f1, f2⟩ := fieldLoop_sound sd hsd total dt hdt cnt rest st1 st' r hl
      refine ⟨(fid, tv) :: fs, by simp [wfFields, hfid, w1, f1], ?_⟩
      rw [w3, f2, serFields, w2, u8_toNat_self]
      simp
    split at h
    · obtain ⟨n, hskip, hl⟩ := bind_eq_ok.1 h
      -- a skip beyond the input leaves the loop nothing to read, and it fails
      have hn : n ≤ r1.length := Decidable.byContradiction fun hh => by
        rw [List.drop_eq_nil_of_le (by omega)] at hl
        exact fieldLoop_nil P S dt sd total cnt _ hl
      obtain ⟨tv, w1, w2, w3⟩ := skipUnknown_sound hP tp.toNat r1 n hskip hn
      exact fin tv _ _ w1 w2 w3 hl
    · rename_i ix f hlk
      obtain ⟨⟨v0, r2⟩, hdf, hl⟩ := bind_eq_ok.1 h
      obtain ⟨tv, w1, w2, w3⟩ :=
        decodeField_sound S total dt hdt f (hsd f (lookupKnown_mem _ _ _ _ _ hlk)) r1 _ v0 r2 hdf
      exact fin tv r2 _ w1 (by rw [w2, (lookupKnown_getElem _ _ _ _ _ hlk).2]) w3 hl

/-- what a success of the struct decoder `ds` consumed is one well-formed struct message -/
def StSound (ds : Nat → Bytes → Val → Outcome (Val × Bytes)) : Prop :=
  ∀ sid b dest v r, ds sid b dest = .ok (v, r) → ∃ fs, wfFields fs = true ∧ b = ser (.strct fs) ++ r

theorem decodeStruct_sound_step (total fuel : Nat) (hdt : DtSound (decodeType P S total fuel)) :
    StSound (decodeStruct P S total (fuel + 1)) := by
  intro sid b dest v r h
  cases dest with
  | st fs0 h0 =>
    rw [decodeStruct_st] at h
    obtain ⟨⟨st, r0⟩, hl, h⟩ := bind_eq_ok.1 h
    split at h
    · cases h
    · cases h
      exact fieldLoop_sound S hP hS (S.get sid) (sd_fields_ok hS sid) total _ hdt _ _ _ _ _ hl
  | _ => rw [decodeStruct_nonst _ _ _ _ _ _ _ (by intro _ _ h; cases h)] at h; cases h

omit hP hS in
theorem decodeType_sound_step (total fuel : Nat) (hdt : DtSound (decodeType P S total fuel))
    (hst : StSound (decodeStruct P S total fuel)) : DtSound (decodeType P S total (fuel + 1)) := by
  intro t b dest v r h
  rw [decodeType_succ] at h
  by_cases hf : P.fixedSize t.tt > 0
  · rw [if_pos hf] at h
    obtain ⟨_, h⟩ := ok_of_ite h nofun
    exact decodeFixed_sound t.tt b v r h
  rw [if_neg hf] at h
  cases t with
  | base k =>
    simp only at h
    by_cases hstr : ((Ty.base k).tt == .string) = true
    · rw [if_pos hstr] at h
      obtain ⟨s, hs, e⟩ := decodeStr_sound _ _ _ _ _ _ h
      refine ⟨.str s, by simp [wf, hs], ?_, e⟩
      simp [TVal.tag, Ty.wire, eq_of_beq hstr, TT.wire]
    · rw [if_neg hstr] at h; cases h
  | ptr e => cases h
  | strct sid =>
    obtain ⟨fs, f1, f2⟩ := hst _ _ _ _ _ h
    exact ⟨.strct fs, f1, rfl, f2⟩
  | map kt vt =>
    obtain ⟨l, r2, es, rfl, hl, hml, _⟩ := decodeMap_ok h
    obtain ⟨xs, x1, x2, x3⟩ := mapLoop_sound kt _ _ kt.wire vt.wire (fun bb => decodeSlot_sound S _ hdt true kt bb _)
      (fun bb => decodeSlot_sound S _ hdt true vt bb _) l r2 [] es r hml
    exact ⟨.map kt.wire vt.wire xs, by simp [wf, codeOK_wire, x1, x2, hl], rfl,
      by rw [x3]; simp [ser, x1]⟩
  | list s et =>
    obtain ⟨l, r1, vs, rfl, hl, hll, _⟩ := decodeList_ok h
    obtain ⟨xs, x1, x2, x3⟩ :=
      listLoop_sound _ et.wire (fun bb => decodeSlot_sound S _ hdt false et bb _) l r1 vs r hll
    cases s with
    | true =>
      exact ⟨.set et.wire xs, by simp [wf, codeOK_wire, x1, x2, hl], rfl, by rw [x3]; simp [ser, x1]⟩
    | false =>
      exact ⟨.list et.wire xs, by simp [wf, codeOK_wire, x1, x2, hl], rfl, by rw [x3]; simp [ser, x1]⟩

theorem decode_sound_all (total : Nat) : ∀ fuel : Nat,
    DtSound (decodeType P S total fuel) ∧ StSound (decodeStruct P S total fuel)
  | 0 => ⟨fun _ _ _ _ _ h => (by rw [decodeType_zero] at h; cases h),
    fun _ _ _ _ _ h => (by rw [decodeStruct_zero] at h; cases h)⟩
  | fuel + 1 => by
    obtain ⟨h1, h2⟩ := decode_sound_all total fuel
    exact ⟨decodeType_sound_step S total fuel h1 h2, decodeStruct_sound_step S hP hS total fuel h1⟩

/-- C05, converse of C03: the input begins with a (laxly) well-formed struct message whose
    serialisation is exactly the first `n` bytes -/
theorem decodeM_sound (sid : Nat) (b : Bytes) (dest v : Val) (n : Nat)
    (h : decodeM P S sid b dest = .ok (v, n)) :
    ∃ fs trailing, wfFields fs = true ∧ b = ser (.strct fs) ++ trailing ∧ n = (ser (.strct fs)).length := by
  rw [decodeM_eq] at h
  obtain ⟨⟨v0, r⟩, hd, ⟨⟩⟩ := mapv_eq_ok.1 h
  obtain ⟨fs, f1, f2⟩ := (decode_sound_all S hP hS b.length P.maxDepth).2 _ _ _ _ _ hd
  refine ⟨fs, r, f1, f2, ?_⟩
  rw [f2, List.length_append, Nat.add_sub_cancel]

end
end Frugal
