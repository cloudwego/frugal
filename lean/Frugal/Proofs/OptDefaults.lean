import Frugal.Proofs.ReaderProps
namespace Frugal

/-- omitted: optional, and nil (pointer / binary / container) or, in a struct with declared defaults, a
    non-pointer value that `==` its default -/
theorem omitted_iff (sd : SDesc) (f : Field) (x : Val) :
    fieldWritten sd f x = false ↔
      f.req = .optional ∧
        (((f.ty.isPtr = true ∨ f.ty.isBinary = true ∨ f.ty.isContainer = true) ∧ isNilWord x = true) ∨
         (f.ty.isPtr = false ∧ sd.hasInit = true ∧ goEqual f.ty.tt f.default x = true)) := by
  -- `fieldWritten` is the negation of the right-hand side, written with Boolean connectives
  simp only [fieldWritten, Bool.and_eq_false_iff, Bool.not_eq_false', Bool.and_eq_true, Bool.or_eq_true,
    beq_iff_eq, Bool.not_eq_true', and_assoc, ← and_or_left, or_assoc]

/-- containers and structs are never "equal to the default": only nil-ness can omit them -/
theorem goEqual_container (t : TT) (a b : Val) (h : t = .list ∨ t = .set ∨ t = .map ∨ t = .strct) :
    goEqual t a b = false := by
  -- every arm of `goEqual` first tests the tag against scalar or string tags
  rcases h with rfl | rfl | rfl | rfl
  all_goals
    unfold goEqual
    split <;> rfl

/-- IEEE-754 `==`: a NaN never equals the default (always written); -0.0 equals a default 0.0 (omitted) -/
theorem nan_never_default (a : Nat) : f64Eq 0x7ff8000000000001 a = false ∧ f64Eq a 0x7ff8000000000001 = false := by
  constructor <;> simp [f64Eq]

theorem neg_zero_equals_zero : f64Eq 0x8000000000000000 0 = true := by decide

theorem mem_toWireFields (S : Schema) (sd : SDesc) (id : Nat) (tv : TVal) :
    ∀ (fs : List Field) (xs : List Val),
    (id, tv) ∈ toWireFields S sd fs xs ↔
      ∃ p ∈ fs.zip xs, fieldWritten sd p.1 p.2 = true ∧ id = p.1.id ∧ tv = toWire S p.1.ty p.2
  | [], _ | _ :: _, [] => by simp [toWireFields]
  | f :: fr, x :: xr => by
    have ih := mem_toWireFields S sd id tv fr xr
    by_cases hw : fieldWritten sd f x = true
    · simp only [toWireFields, hw, ↓reduceIte, List.mem_cons, Prod.mk.injEq, ih, List.zip_cons_cons]
      constructor
      · rintro (⟨h1, h2⟩ | ⟨p, hp, h⟩)
        · exact ⟨(f, x), Or.inl rfl, hw, h1, h2⟩
        · exact ⟨p, Or.inr hp, h⟩
      · rintro ⟨p, hp | hp, h⟩
        · subst hp; exact Or.inl ⟨h.2.1, h.2.2⟩
        · exact Or.inr ⟨p, hp, h⟩
    · have hw' : fieldWritten sd f x = false := by simpa using hw
      simp only [toWireFields, hw', Bool.false_eq_true, ↓reduceIte, ih, List.zip_cons_cons, List.mem_cons]
      constructor
      · rintro ⟨p, hp, h⟩; exact ⟨p, Or.inr hp, h⟩
      · rintro ⟨p, hp | hp, h⟩
        · subst hp; rw [hw'] at h; cases h.1
        · exact ⟨p, hp, h⟩

theorem header_present_iff (S : Schema) (sd : SDesc) (fs : List Field) (xs : List Val)
    (hpw : fs.Pairwise (fun a b => a.id ≠ b.id)) (f : Field) (x : Val) (hm : (f, x) ∈ fs.zip xs) :
    (∃ tv, (f.id, tv) ∈ toWireFields S sd fs xs) ↔ fieldWritten sd f x = true := by
  constructor
  · rintro ⟨tv, h⟩
    obtain ⟨p, hp, hw, hid, _⟩ := (mem_toWireFields S sd f.id tv fs xs).1 h
    -- same id, both in fs: same position, hence the same pair
    have : p = (f, x) := by
      clear h
      induction fs generalizing xs with
      | nil => simp at hm
      | cons g fr ih =>
        cases xs with
        | nil => simp at hm
        | cons y xr =>
          simp only [List.zip_cons_cons, List.mem_cons] at hm hp
          have hpc := List.pairwise_cons.1 hpw
          rcases hm with hm | hm <;> rcases hp with hp | hp
          · rw [hp, hm]
          · cases hm
            exact absurd hid (hpc.1 p.1 (List.of_mem_zip hp).1)
          · subst hp
            exact absurd hid.symm (hpc.1 f (List.of_mem_zip hm).1)
          · exact ih xr hpc.2 hm hp
    rw [this] at hw
    exact hw
  · intro hw
    exact ⟨toWire S f.ty x, (mem_toWireFields S sd f.id _ fs xs).2 ⟨(f, x), hm, hw, rfl, rfl⟩⟩

theorem top_level_not_reinitialised (P : Params) (S : Schema) (sid : Nat) (fs : List (Nat × TVal))
    (trailing : Nat) (dest : Val) :
    readMessage P S sid fs trailing dest =
      readStruct P S ((ser (.strct fs)).length + trailing) P.maxDepth sid fs trailing dest := rfl

/-- `InitDefault()` assigns exactly the fields it declares, leaving the others as they were -/
theorem applyInit_slot : ∀ (fs : List Field) (vs : List Val) (j : Nat) (f : Field) (v : Val),
    fs[j]? = some f → vs[j]? = some v →
    (applyInit fs vs)[j]? = some (if f.assigned then f.dflt.getD v else v)
  | [], _, _, _, _, h, _ | _ :: _, [], _, _, _, _, h => by simp at h
  | g :: fr, w :: vr, 0, f, v, hf, hv => by
    simp only [List.getElem?_cons_zero, Option.some.injEq] at hf hv
    subst hf; subst hv
    simp [applyInit]
  | g :: fr, w :: vr, j + 1, f, v, hf, hv => applyInit_slot fr vr j f v hf hv

theorem absent_fields_keep_destination (P : Params) (S : Schema) (total f sid : Nat) (F : List (Nat × TVal))
    (tail : Nat) (vs out : List Val) (h h2 : Bytes)
    (hok : readStruct P S total (f + 1) sid F tail (.st vs h) = .ok (.st out h2))
    (j : Nat) (hj : j ∉ writtenIxs (S.get sid) F) : out.getD j default = vs.getD j default := by
  rw [readStruct_st] at hok
  obtain ⟨st', hl, hv⟩ := Outcome.bind_eq_ok.1 hok
  cases hm : firstMissing (S.get sid).fields st'.seen with
  | some g => rw [hm] at hv; cases hv
  | none => rw [hm] at hv; cases hv; exact untouched P S total f (S.get sid) F (tail + 1) vs st' hl j hj

theorem readField_ok_ptr (P : Params) (S : Schema) (total fuel : Nat) (f : Field) (v : TVal) (tail : Nat)
    (slot x : Val) (h : readField P S total fuel f v tail slot = .ok x) (hp : f.ty.isPtr = true) :
    ∃ w, x = .ptr w := by
  -- a view, a fixed-size value and a value read recursively all go through `wrapPtr`
  have key : ∀ o : Outcome Val, o.mapv (wrapPtr f.ty) = .ok x → ∃ w, x = .ptr w := by
    intro o ho
    obtain ⟨a, _, rfl⟩ := Outcome.mapv_eq_ok.1 ho
    exact ⟨a, by rw [wrapPtr, if_pos hp]⟩
  rw [readField_eq] at h
  by_cases hv : specFixed f.ty.tt = 0 ∧ f.nocopy = true
  · rw [if_pos hv] at h; exact key _ h
  · rw [if_neg hv, readSlot_eq] at h; exact key _ h

theorem writtenIxs_mem (sd : SDesc) (ix : Nat) : ∀ r : List (Nat × TVal), ix ∈ writtenIxs sd r →
    ∃ id' v' f', (id', v') ∈ r ∧ lookupKnown sd id' v'.tag = some (ix, f')
  | [], h => by simp [writtenIxs] at h
  | (i1, v1) :: r, h => by
    simp only [writtenIxs, List.mem_append] at h
    rcases h with hl | hl
    · cases hq : lookupKnown sd i1 v1.tag with
      | none => simp [hq] at hl
      | some pq =>
        obtain ⟨ixq, fq⟩ := pq
        simp only [hq, List.mem_singleton] at hl
        subst hl
        exact ⟨i1, v1, fq, List.mem_cons_self .., hq⟩
    · obtain ⟨a, b, c, d, e⟩ := writtenIxs_mem sd ix r hl
      exact ⟨a, b, c, List.mem_cons_of_mem _ d, e⟩

theorem carried_ptr_nonnil (P : Params) (S : Schema) (total fuel : Nat) (sd : SDesc) :
    ∀ (fs : List (Nat × TVal)) (tail : Nat) (st st' : LoopSt),
      readFields P S total fuel sd fs tail st = .ok st' →
      ∀ id v ix f, (id, v) ∈ fs → lookupKnown sd id v.tag = some (ix, f) → f.ty.isPtr = true →
        ix < st.fs.length → ∃ w, st'.fs.getD ix default = .ptr w
  | [], _, _, _, _, _, _, _, _, hm, _, _, _ => by cases hm
  | (id0, v0) :: r, tail, st, st', h, id, v, ix, f, hm, hk, hp, hlt => by
    by_cases hin : (id, v) ∈ r
    · -- a later occurrence decides
      cases hk0 : lookupKnown sd id0 v0.tag with
      | none =>
        rw [readFields_unknown P S total hk0] at h
        obtain ⟨_, h⟩ := Outcome.ok_of_ite h nofun
        refine carried_ptr_nonnil P S total fuel sd r tail _ st' h id v ix f hin hk hp ?_
        split <;> exact hlt
      | some p0 =>
        obtain ⟨ix0, f0⟩ := p0
        rw [readFields_known P S total hk0] at h
        obtain ⟨_, _, h⟩ := Outcome.bind_eq_ok.1 h
        exact carried_ptr_nonnil P S total fuel sd r tail _ st' h id v ix f hin hk hp (by simpa using hlt)
    · obtain ⟨rfl, rfl⟩ : id = id0 ∧ v = v0 := by
        rcases List.mem_cons.1 hm with h' | h'
        · exact Prod.mk.inj h'
        · exact absurd h' hin
      rw [readFields_known P S total hk] at h
      obtain ⟨x, hx, h⟩ := Outcome.bind_eq_ok.1 h
      obtain ⟨w, hw⟩ := readField_ok_ptr P S total fuel f v _ _ x hx hp
      by_cases hlater : ix ∈ writtenIxs sd r
      · -- overwritten by a later occurrence of the same field: still a pointer
        obtain ⟨id', v', f', hm', hk'⟩ := writtenIxs_mem sd ix r hlater
        -- the index determines the field
        obtain rfl : f' = f := Option.some.inj
          ((lookupKnown_getElem _ _ _ _ _ hk').1.symm.trans (lookupKnown_getElem _ _ _ _ _ hk).1)
        exact carried_ptr_nonnil P S total fuel sd r tail _ st' h id' v' ix f' hm' hk' hp (by simpa using hlt)
      · rw [(readFields_spec P S total fuel sd r tail _ st' h).2.2 ix hlater]
        simp only [List.getD_eq_getElem?_getD]
        rw [List.getElem?_set_self hlt]
        exact ⟨w, by simpa using hw⟩

end Frugal
