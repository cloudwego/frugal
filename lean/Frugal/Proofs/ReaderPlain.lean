import Frugal.Proofs.ReaderProps
import Frugal.Proofs.Erase
namespace Frugal

theorem plainList_iff (xs : List Val) : plainList xs = true ↔ ∀ x ∈ xs, plain x = true := by
  induction xs with
  | nil => simp [plainList]
  | cons x r ih => simp [plainList, ih]

theorem plainList_getD (vs : List Val) (i : Nat) (h : plainList vs = true) : plain (vs.getD i default) = true :=
  forall_mem_getD i ((plainList_iff vs).1 h) rfl

theorem plainList_set (vs : List Val) (i : Nat) (x : Val) (h : plainList vs = true) (hx : plain x = true) :
    plainList (vs.set i x) = true :=
  (plainList_iff _).2 (forall_mem_set i ((plainList_iff vs).1 h) hx)

/-- through `erase`: the induction over the fields is in `erase_initDest`; an `erase` is plain, a plain value its own `erase` -/
theorem initDest_plain (S : Schema) (sid : Nat) (d : Val)
    (hdf : ∀ f ∈ (S.get sid).fields, f.assigned = true → ∀ x, f.dflt = some x → plain x = true)
    (h : plain d = true) :
    plain (initDest S sid d) = true := by
  rw [← erase_plain d h, ← erase_initDest S sid d hdf]
  exact plain_erase _

section
variable (P : Params) (S : Schema) (total : Nat)
variable (hnc : ∀ sid, ∀ f ∈ (S.get sid).fields, f.nocopy = false)
variable (hdf : ∀ sid, ∀ f ∈ (S.get sid).fields, f.assigned = true → ∀ d, f.dflt = some d → plain d = true)
include hnc hdf

/-- the field loop is given its description `sd` and the hypotheses speak of `S.get sid`: its judgement asks
    `sd = S.get sid` (`sd.ok` in `reader_reqOK`, all it uses), here and in the other instances; case `struct` gives it -/
theorem reader_plain :
    (∀ {fuel t tv tail dest w}, readVal P S total fuel t tv tail dest = .ok w → plain dest = true → plain w = true) ∧
    (∀ {fuel sid fs tail dest w}, readStruct P S total fuel sid fs tail dest = .ok w →
      plain dest = true → plain w = true) ∧
    (∀ {fuel sd fs tail st st'}, readFields P S total fuel sd fs tail st = .ok st' →
      ∀ sid, sd = S.get sid → plainList st.fs = true → plainList st'.fs = true) ∧
    (∀ {fuel t x tail slot w}, readSlot P S total fuel t x tail slot = .ok w → plain slot = true → plain w = true) ∧
    (∀ {fuel et xs tail vs}, readList P S total fuel et xs tail = .ok vs → plainList vs = true) ∧
    (∀ {fuel kt vt es tail acc res}, readEntries P S total fuel kt vt es tail acc = .ok res →
      plainEntries acc = true → plainEntries res = true) := by
  apply reader_induction
  case fixed => exact fun _ h _ => readFixed_plain _ _ _ h
  case str => exact fun _ h _ => readStr_copy_plain _ _ _ _ _ h
  case map => exact fun _ ih _ => ih rfl
  case list | set => exact fun _ ih _ => ih
  case structVal => exact fun _ ih hd => ih (initDest_plain S _ _ (hdf _) hd)
  case struct => exact fun _ _ ih hd => ih _ rfl hd
  case fieldsNil => exact fun _ _ hs => hs
  case fieldsUnknown => exact fun _ _ _ ih => ih
  case fieldsView =>
    refine @fun _ _ _ _ _ _ _ _ f _ _ hk _ hv _ _ _ sid hsd _ => ?_
    subst hsd
    rw [hnc sid f (lookupKnown_mem _ _ _ _ _ hk)] at hv
    cases hv
  case fieldsKnown =>
    exact fun _ _ _ ihx _ ih sid hsd hs => ih sid hsd (plainList_set _ _ _ hs (ihx (plainList_getD _ _ hs)))
  case slotFixed => exact fun _ h _ => wrapPtr_plain _ _ (readFixed_plain _ _ _ h)
  case slotVal =>
    refine fun _ _ ih hs => wrapPtr_plain _ _ (ih ?_)
    unfold freshTarget
    split
    · exact zeroVal_plain S _ _
    · exact hs
  case listNil => exact rfl
  case listCons =>
    refine fun _ ihx _ ih => ?_
    simp only [plainList, ihx (zeroVal_plain S _ _), ih, Bool.and_self]
  case entriesNil => exact fun ha => ha
  case entriesCons =>
    exact fun _ ihk _ ihv _ ih ha =>
      ih (mapInsert_cases _ rfl (fun _ _ _ => rfl) _ _ _ ha (ihk (zeroVal_plain S _ _))
        (ihv (zeroVal_plain S _ _)))

end
end Frugal
