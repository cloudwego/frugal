/- One `Malloc` call from the padding lemma `alignUp_pad`, then induction over the requests; the block
   addresses the runtime returns are arbitrary. -/
import Frugal.Alloc
namespace Frugal

/-- the code computes `(ret + mask) &^ mask`; for `mask = 2^k - 1` that is `alignUp` -/
theorem andNot_eq_alignUp (a k : Nat) :
    (a + (2 ^ k - 1)) - ((a + (2 ^ k - 1)) &&& (2 ^ k - 1)) = alignUp a (2 ^ k - 1) := by
  rw [Nat.and_two_pow_sub_one_eq_mod, alignUp, Nat.sub_add_cancel (Nat.two_pow_pos k),
    Nat.div_mul_self_eq_mod_sub_self]

theorem alignUp_ge (a m : Nat) : a ≤ alignUp a m := by
  have := Nat.lt_div_mul_add (a := a + m) (by omega : 0 < m + 1)
  unfold alignUp
  omega

theorem alignUp_le (a m : Nat) : alignUp a m ≤ a + m := Nat.div_mul_le_self _ _

theorem alignUp_mod (a m : Nat) : alignUp a m % (m + 1) = 0 := Nat.mul_mod_left _ _

/-- the padding `Malloc` inserts -/
theorem alignUp_pad (a align : Nat) (ha : 0 < align) :
    (a + (alignUp a (align - 1) - a)) % align = 0 ∧ alignUp a (align - 1) - a ≤ align - 1 := by
  have g2 := alignUp_le a (align - 1)
  have g3 := alignUp_mod a (align - 1)
  rw [Nat.sub_add_cancel ha] at g3
  rw [Nat.add_sub_cancel' (alignUp_ge a (align - 1))]
  exact ⟨g3, by omega⟩

/-- a region is well placed: aligned and inside its block -/
def Region.ok (r : Region) : Prop :=
  r.addr % r.align = 0 ∧ r.blockBase ≤ r.addr ∧ r.addr + r.size ≤ r.blockBase + r.blockSize

/-- the arithmetic of one bump: from cursor `p` of a block of `cap` bytes at `base`, padding `off`, size `n` -/
theorem bump_arith {base p cap n m off : Nat} (hfit : p + n + m ≤ cap) (hoff : off ≤ m) :
    base ≤ base + p + off ∧ base + p + off + n ≤ base + cap ∧ base + p + off + n ≤ base + (p + n + off) := by
  omega

/-- one call: the region ends at or before the new cursor and starts at or after the old one of its block -/
theorem malloc_spec (bs : Nat) (s : SpanSt) (fresh n align : Nat) (ha : 0 < align) :
    let r := s.malloc bs fresh n align
    r.2.ok ∧ r.2.size = n ∧ r.2.blk = r.1.blk ∧ r.2.blockBase = r.1.base ∧
    r.2.addr + n ≤ r.1.base + r.1.p ∧ s.blk ≤ r.1.blk ∧
    (r.1.blk = s.blk → r.1.base = s.base ∧ s.base + s.p ≤ r.2.addr) := by
  intro r
  have e : r = s.malloc bs fresh n align := rfl
  unfold Region.ok
  by_cases hc : s.p + n + (align - 1) > s.n
  · -- a new block, large enough by construction
    simp only [SpanSt.malloc, hc, ↓reduceIte] at e
    obtain ⟨h1, h2⟩ := alignUp_pad (fresh + 0) align ha
    have hfit : 0 + n + (align - 1) ≤ if n + (align - 1) > bs then n + (align - 1) else bs := by
      split <;> omega
    obtain ⟨a1, a2, a3⟩ := bump_arith (base := fresh) hfit h2
    rw [e]
    exact ⟨⟨h1, a1, a2⟩, rfl, rfl, rfl, a3, Nat.le_succ _, fun h => absurd h (Nat.succ_ne_self _)⟩
  · simp only [SpanSt.malloc, hc, ↓reduceIte] at e
    obtain ⟨h1, h2⟩ := alignUp_pad (s.base + s.p) align ha
    obtain ⟨a1, a2, a3⟩ := bump_arith (base := s.base) (Nat.le_of_not_gt hc) h2
    rw [e]
    exact ⟨⟨h1, a1, a2⟩, rfl, rfl, rfl, a3, Nat.le_refl _, fun _ => ⟨rfl, Nat.le_add_right ..⟩⟩

theorem spanRegions_cons (bs : Nat) (s : SpanSt) (n a fresh : Nat) (t : List (Nat × Nat × Nat)) :
    spanRegions bs s ((n, a, fresh) :: t) =
      (s.malloc bs fresh n a).2 :: spanRegions bs (s.malloc bs fresh n a).1 t := rfl

/-- every region of a run lies after the cursor the run started from, or in a later block -/
theorem spanRegions_spec (bs : Nat) :
    ∀ (reqs : List (Nat × Nat × Nat)) (s : SpanSt), (∀ q ∈ reqs, 0 < q.2.1) →
      ∀ r ∈ spanRegions bs s reqs,
        Region.ok r ∧ s.blk ≤ r.blk ∧ (r.blk = s.blk → s.base + s.p ≤ r.addr ∧ r.blockBase = s.base) := by
  intro reqs
  induction reqs with
  | nil => intro _ _ r hr; cases hr
  | cons q t ih =>
    intro s ha r hr
    obtain ⟨n, a, fresh⟩ := q
    obtain ⟨ha0, hat⟩ := List.forall_mem_cons.1 ha
    obtain ⟨hok, _, hblk, hbase, hend, hmono, hsame⟩ := malloc_spec bs s fresh n a ha0
    rw [spanRegions_cons] at hr
    generalize s.malloc bs fresh n a = m at *
    rcases List.mem_cons.1 hr with rfl | hr
    · refine ⟨hok, hblk ▸ hmono, fun hb => ?_⟩
      obtain ⟨hsbase, hstart⟩ := hsame (hblk ▸ hb)
      exact ⟨hstart, hbase.trans hsbase⟩
    · obtain ⟨rok, rblk, rafter⟩ := ih m.1 hat r hr
      refine ⟨rok, Nat.le_trans hmono rblk, fun hb => ?_⟩
      -- `r` is in the block `s` was in, so no new block was opened and the cursor only moved forward
      have hb' : r.blk = m.1.blk := Nat.le_antisymm (hb ▸ hmono) rblk
      obtain ⟨rstart, rbase⟩ := rafter hb'
      obtain ⟨hsbase, hstart⟩ := hsame (hb' ▸ hb)
      exact ⟨Nat.le_trans hstart (Nat.le_trans (Nat.le_add_right _ n) (Nat.le_trans hend rstart)),
        rbase.trans hsbase⟩

theorem spanRegions_disjoint (bs : Nat) :
    ∀ (reqs : List (Nat × Nat × Nat)) (s : SpanSt), (∀ q ∈ reqs, 0 < q.2.1) →
      (spanRegions bs s reqs).Pairwise (fun r1 r2 => r1.blk = r2.blk → r1.addr + r1.size ≤ r2.addr)
  | [], _, _ => List.Pairwise.nil
  | (n, a, fresh) :: t, s, ha => by
    obtain ⟨ha0, hat⟩ := List.forall_mem_cons.1 ha
    obtain ⟨_, hsize, hblk, _, hend, _, _⟩ := malloc_spec bs s fresh n a ha0
    rw [spanRegions_cons]
    refine List.Pairwise.cons (fun r2 hr2 hb => ?_) (spanRegions_disjoint bs t _ hat)
    exact Nat.le_trans hend ((spanRegions_spec bs t _ hat r2 hr2).2.2 (hb ▸ hblk)).1

end Frugal
