/- `fitH`: lengths within int32, and every holder, at every level, the serialisation of well-formed fields:
   the unrecognised fields of the message it was filled from, or what the destination held. -/
import Frugal.Proofs.Holders
import Frugal.Proofs.ReaderProps
namespace Frugal

theorem default_fitH : fitH (default : Val) = true := rfl

theorem zeroVal_fitH (S : Schema) : ∀ (n : Nat) (t : Ty), fitH (zeroVal S n t) = true
  | 0, t => by cases t with
    | base k => cases k <;> rfl
    | _ => simp [zeroVal, fitH, fitHList, fitHEntries, serFields, wfFields]
  | n + 1, t => by
    cases t with
    | base k => cases k <;> rfl
    | strct sid =>
      simp only [zeroVal, fitH, holderFields_nil, serFields, wfFields, decide_true, Bool.true_and]
      generalize (S.get sid).fields = fs
      induction fs with
      | nil => rfl
      | cons f r ih => simp [fitHList, zeroVal_fitH S n f.ty, ih]
    | _ => simp [zeroVal, fitH, fitHList, fitHEntries]

theorem readFixed_fitH (t : TT) (tv : TVal) (w : Val) (h : readFixed t tv = .ok w) : fitH w = true := by
  obtain ⟨n, rfl⟩ := readFixed_ok h
  rfl

theorem readStr_fitH (isBin nc : Bool) (total tail : Nat) (tv : TVal) (w : Val) (hw : wf tv = true)
    (h : readStr isBin nc total tail tv = .ok w) : fitH w = true := by
  obtain ⟨s, rfl, hs⟩ := readStr_ok h
  rcases hs with rfl | ⟨_, _, rfl⟩
  · cases isBin <;> exact hw
  · cases isBin <;> rfl

theorem wrapPtr_fitH (t : Ty) (w : Val) (h : fitH w = true) : fitH (wrapPtr t w) = true := by
  unfold wrapPtr; split <;> simp [fitH, h]

theorem freshTarget_fitH (S : Schema) (t : Ty) (slot : Val) (h : fitH slot = true) :
    fitH (freshTarget S t slot) = true := by
  unfold freshTarget; split
  · exact zeroVal_fitH S _ _
  · exact h

theorem fitHList_iff (xs : List Val) : fitHList xs = true ↔ ∀ x ∈ xs, fitH x = true := by
  induction xs with
  | nil => simp [fitHList]
  | cons x r ih => simp [fitHList, ih]

theorem fitHList_getD (vs : List Val) (i : Nat) (h : fitHList vs = true) : fitH (vs.getD i default) = true :=
  forall_mem_getD i ((fitHList_iff vs).1 h) rfl

theorem fitHList_set (vs : List Val) (i : Nat) (x : Val) (h : fitHList vs = true) (hx : fitH x = true) :
    fitHList (vs.set i x) = true :=
  (fitHList_iff _).2 (forall_mem_set i ((fitHList_iff vs).1 h) hx)

theorem applyInit_fitH : ∀ (fs : List Field) (vs : List Val),
    (∀ f ∈ fs, f.assigned = true → ∀ d, f.dflt = some d → fitH d = true) → fitHList vs = true →
    fitHList (applyInit fs vs) = true
  | [], _, _, h | _ :: _, [], _, h => by simpa [applyInit] using h
  | f :: fr, v :: vr, hd, h => by
    simp only [fitHList, Bool.and_eq_true] at h
    simp only [applyInit, fitHList, Bool.and_eq_true]
    exact ⟨applyInit_head f v h.1 (hd f (List.mem_cons_self ..)),
      applyInit_fitH fr vr (fun g hg => hd g (List.mem_cons_of_mem _ hg)) h.2⟩

theorem initDest_fitH (S : Schema) (sid : Nat) (dest : Val)
    (hdf : ∀ f ∈ (S.get sid).fields, f.assigned = true → ∀ d, f.dflt = some d → fitH d = true)
    (h : fitH dest = true) :
    fitH (initDest S sid dest) = true := by
  refine initDest_cases S sid dest h fun vs hh h => ?_
  simp only [fitH, Bool.and_eq_true] at h ⊢
  exact ⟨h.1, applyInit_fitH _ _ hdf h.2⟩

/-- A holder filled from the message `fs` reads back as the unrecognised fields of `fs`. -/
theorem holderFields_unknownBytes (sd : SDesc) (fs : List (Nat × TVal)) (hw : wfFields fs = true) :
    holderFields (unknownBytes sd fs) = unknownOnly sd fs := by
  rw [unknownBytes_eq_ser, holderFields_ser _ (wfFields_sublist _ _ (unknownOnly_sublist sd fs) hw)]

section
variable (P : Params) (S : Schema) (total : Nat)

/-- lengths come from `wf`; a new holder is the bytes of the unrecognised fields (`holderFields_unknownBytes`) -/
theorem reader_fitH
    (hdf : ∀ sid, ∀ f ∈ (S.get sid).fields, f.assigned = true → ∀ d, f.dflt = some d → fitH d = true) :
    (∀ {fuel t tv tail dest w}, readVal P S total fuel t tv tail dest = .ok w →
      wf tv = true → fitH dest = true → fitH w = true) ∧
    (∀ {fuel sid fs tail dest w}, readStruct P S total fuel sid fs tail dest = .ok w →
      wfFields fs = true → fitH dest = true → fitH w = true) ∧
    (∀ {fuel sd fs tail st st'}, readFields P S total fuel sd fs tail st = .ok st' →
      wfFields fs = true → fitHList st.fs = true → fitHList st'.fs = true) ∧
    (∀ {fuel t x tail slot w}, readSlot P S total fuel t x tail slot = .ok w →
      wf x = true → fitH slot = true → fitH w = true) ∧
    (∀ {fuel et xs tail vs}, readList P S total fuel et xs tail = .ok vs →
      ∀ a, wfList a xs = true → fitHList vs = true ∧ vs.length = xs.length) ∧
    (∀ {fuel kt vt es tail acc res}, readEntries P S total fuel kt vt es tail acc = .ok res →
      ∀ a b, wfEntries a b es = true → fitHEntries acc = true →
      fitHEntries res = true ∧ res.length ≤ acc.length + es.length) := by
  apply reader_induction
  case fixed => exact fun _ h _ _ => readFixed_fitH _ _ _ h
  case str => exact fun _ h hw _ => readStr_fitH _ _ _ _ _ _ hw h
  case map =>
    refine fun _ ih hw _ => ?_
    simp only [wf, Bool.and_eq_true, decide_eq_true_eq] at hw
    have := ih _ _ hw.2 rfl
    simp only [fitH, Bool.and_eq_true, decide_eq_true_eq]
    exact ⟨Nat.lt_of_le_of_lt (by simpa using this.2) hw.1.2, this.1⟩
  case list | set =>
    refine fun _ ih hw _ => ?_
    simp only [wf, Bool.and_eq_true, decide_eq_true_eq] at hw
    have := ih _ hw.2
    simp only [fitH, Bool.and_eq_true, decide_eq_true_eq]
    exact ⟨this.2 ▸ hw.1.2, this.1⟩
  case structVal => exact fun _ ih hw hd => ih hw (initDest_fitH S _ _ (hdf _) hd)
  case struct =>
    refine @fun fuel sid fs tail vs hh st hl _ ih hw hd => ?_
    simp only [fitH, Bool.and_eq_true, decide_eq_true_eq] at hd ⊢
    refine ⟨?_, ih hw hd.2⟩
    split
    · rename_i hb
      rw [holder_content P S total fuel (S.get sid) fs (tail + 1) vs st hb.1 hl, holderFields_unknownBytes _ fs hw]
      exact ⟨(unknownBytes_eq_ser _ fs).symm, wfFields_sublist _ _ (unknownOnly_sublist _ fs) hw⟩
    · exact hd.1
  case fieldsNil => exact fun _ hs => hs
  case fieldsUnknown =>
    refine fun _ _ _ ih hw hs => ?_
    simp only [wfFields, Bool.and_eq_true] at hw
    exact ih hw.2 hs
  case fieldsView =>
    refine fun _ _ _ hv _ ih hw hs => ?_
    simp only [wfFields, Bool.and_eq_true] at hw
    exact ih hw.2 (fitHList_set _ _ _ hs (wrapPtr_fitH _ _ (readStr_fitH _ _ _ _ _ _ hw.1.2 hv)))
  case fieldsKnown =>
    refine fun _ _ _ ihx _ ih hw hs => ?_
    simp only [wfFields, Bool.and_eq_true] at hw
    exact ih hw.2 (fitHList_set _ _ _ hs (ihx hw.1.2 (fitHList_getD _ _ hs)))
  case slotFixed => exact fun _ h _ _ => wrapPtr_fitH _ _ (readFixed_fitH _ _ _ h)
  case slotVal => exact fun _ _ ih hw hs => wrapPtr_fitH _ _ (ih hw (freshTarget_fitH S _ _ hs))
  case listNil => exact fun _ _ => ⟨rfl, rfl⟩
  case listCons =>
    refine fun _ ihx _ ih a hw => ?_
    simp only [wfList, Bool.and_eq_true] at hw
    have := ih a hw.2
    simp only [fitHList, Bool.and_eq_true, List.length_cons]
    exact ⟨⟨ihx hw.1.2 (zeroVal_fitH S _ _), this.1⟩, by rw [this.2]⟩
  case entriesNil => exact fun _ _ _ ha => ⟨ha, by simp⟩
  case entriesCons =>
    refine @fun _ kt _ _ _ _ _ acc k v _ _ ihk _ ihv _ ih a b hw ha => ?_
    simp only [wfEntries, Bool.and_eq_true] at hw
    have := ih a b hw.2 (mapInsert_cases kt rfl (fun _ _ _ => rfl) _ _ _ ha (ihk hw.1.1.2 (zeroVal_fitH S _ _))
      (ihv hw.1.2 (zeroVal_fitH S _ _)))
    have hl := mapInsert_length_le kt acc k v
    refine ⟨this.1, ?_⟩
    simp only [List.length_cons]
    omega

variable (hdf : ∀ sid, ∀ f ∈ (S.get sid).fields, ∀ d, f.dflt = some d → fitH d = true)
include hdf

theorem readVal_fitH : ∀ (tv : TVal) (fuel : Nat) (t : Ty) (tail : Nat) (dest w : Val),
    wf tv = true → fitH dest = true → readVal P S total fuel t tv tail dest = .ok w → fitH w = true :=
  fun _ _ _ _ _ _ hw hd h => (reader_fitH P S total fun sid f hf _ => hdf sid f hf).1 h hw hd

theorem readList_fitH : ∀ (xs : List TVal) (fuel : Nat) (et : Ty) (tail : Nat) (vs : List Val) (a : Nat),
    wfList a xs = true → readList P S total fuel et xs tail = .ok vs →
    fitHList vs = true ∧ vs.length = xs.length :=
  fun _ _ _ _ _ a hw h => (reader_fitH P S total fun sid f hf _ => hdf sid f hf).2.2.2.2.1 h a hw

theorem readEntries_fitH : ∀ (es : List (TVal × TVal)) (fuel : Nat) (kt vt : Ty) (tail : Nat)
    (acc res : List (Val × Val)) (a b : Nat), wfEntries a b es = true → fitHEntries acc = true →
    readEntries P S total fuel kt vt es tail acc = .ok res →
    fitHEntries res = true ∧ res.length ≤ acc.length + es.length :=
  fun _ _ _ _ _ _ _ a b hw ha h => (reader_fitH P S total fun sid f hf _ => hdf sid f hf).2.2.2.2.2 h a b hw ha

omit total in
theorem readMessage_fitH (sid : Nat) (fs : List (Nat × TVal)) (trailing : Nat) (dest w : Val)
    (hw : wfFields fs = true) (hd : fitH dest = true)
    (h : readMessage P S sid fs trailing dest = .ok w) : fitH w = true :=
  (reader_fitH P S _ fun sid f hf _ => hdf sid f hf).2.1 h hw hd
end
end Frugal
