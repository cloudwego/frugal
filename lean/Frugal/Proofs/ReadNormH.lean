/- the reader computes `normH` on `toWireH`: one induction over the typing judgement (`read_normH_all`), whose
   struct case is `readStruct_known_unknown` -/
import Frugal.Proofs.RoundTripHolder
import Frugal.Proofs.ReadHelpers
import Frugal.Proofs.ReaderProps
import Frugal.Proofs.Holders
namespace Frugal

/-- a message made of fields the loop consumes as `hloop` says, followed by fields `us` the struct does not
    recognise: `us` ends up, serialised, in the holder (when the type has one) -/
theorem readStruct_known_unknown (P : Params) (S : Schema) (total f sid tail : Nat)
    (A us : List (Nat × TVal)) (ds out : List Val) (h' : Bytes) (seen : List Nat)
    (hloop : readFields P S total f (S.get sid) A ((serFields us).length + (tail + 1)) { fs := ds } =
      .ok { fs := out, seen := seen, unk := [] })
    (hunk : ∀ p ∈ us, lookupKnown (S.get sid) p.1 p.2.tag = none ∧ skipNeed p.2 ≤ P.skipDepth)
    (hreq : ∀ g ∈ (S.get sid).fields, g.req = .required → g.id ∈ seen) :
    readStruct P S total (f + 1) sid (A ++ us) tail (.st ds h') =
      .ok (.st out (if (S.get sid).hasHolder && (serFields us).length > 0 then serFields us else h')) := by
  have hl : readFields P S total f (S.get sid) (A ++ us) (tail + 1) { fs := ds } =
      .ok { fs := out, seen := seen, unk := if (S.get sid).hasHolder then serFields us else [] } := by
    rw [readFields_append, hloop]
    simp only
    rw [readFields_allUnknown P S total f (S.get sid) us (tail + 1) _ hunk, List.nil_append]
  rw [required_verdict P S total f sid _ tail ds h' _ hl, (firstMissing_none_iff _ _).2 hreq]
  cases (S.get sid).hasHolder <;> rfl

theorem unkFieldsOK_iff (P : Params) (sd : SDesc) (us : List (Nat × TVal)) :
    unkFieldsOK P sd us = true ↔ ∀ p ∈ us, lookupKnown sd p.1 p.2.tag = none ∧ skipNeed p.2 ≤ P.skipDepth := by
  simp only [unkFieldsOK, List.all_eq_true, Bool.and_eq_true, decide_eq_true_eq, Option.isNone_iff_eq_none]

section
variable (P : Params) (S : Schema) (total : Nat)
variable (hS : S.ok = true) (hside : S.rtSide)
include hS hside

/-- The fields a holder serialises are skipped, not read: only the depth of the denotation `toWire` counts.
    The field loop is followed field by field: `pre` and `done` are the fields and destination slots already
    passed (`sd.fields = pre ++ fs`, `done.length = pre.length`), so that the index `lookupKnown` returns for
    the next field is `pre.length`. -/
theorem read_normH_all :
    (∀ (t : Ty) (v : Val), t.ok = true → hasTy S t v = true → ∀ (fuel tail : Nat) (slot : Val),
      nilOK t v = true → rtOK S t v = true → holdersOK v = true → unkOK P S t v = true →
      (∀ sid, t = .strct sid → hasTy S t slot = true) → 2 * depth (toWire S t v) + 1 ≤ fuel →
      readSlot P S total fuel t (toWireH S t v) tail slot = .ok (normH S t v slot)) ∧
    (∀ (fs : List Field) (xs : List Val), (∀ f ∈ fs, f.ok = true) → hasTyFields S fs xs = true →
      ∀ (sd : SDesc) (pre : List Field) (done ds : List Val) (seen : List Nat) (fuel tail : Nat),
      sd.fields = pre ++ fs → sd.fields.Pairwise (fun a b => a.id ≠ b.id) →
      (∀ g ∈ fs, g.nocopy = false) → done.length = pre.length →
      hasTyFields S fs ds = true → rtOKFields S sd fs xs = true →
      holdersOKList xs = true → unkOKFields P S fs xs = true →
      2 * depthFields (toWireFields S sd fs xs) + 1 ≤ fuel →
      readFields P S total fuel sd (toWireFieldsH S sd fs xs) tail { fs := done ++ ds, seen := seen, unk := [] } =
        .ok { fs := done ++ normFieldsH S sd fs xs ds, seen := seenOf sd fs xs seen, unk := [] }) ∧
    (∀ (k v : Ty) (es : List (Val × Val)), (k.ok = true ∧ (!k.isPtr || k.isStructPtr) = true) →
      (v.ok = true ∧ (!v.isPtr || v.isStructPtr) = true) → hasTyEntries S k v es = true →
      ∀ (acc : List (Val × Val)) (fuel tail : Nat),
      rtOKEntries S k v es = true → holdersOKEntries es = true → unkOKEntries P S k v es = true →
      2 * depthEntries (toWireEntries S k v es) + 1 ≤ fuel →
      readEntries P S total fuel k v (toWireEntriesH S k v es) tail acc = .ok (normEntriesH S k v es acc)) ∧
    (∀ (e : Ty) (xs : List Val), e.ok = true → (!e.isPtr || e.isStructPtr) = true →
      hasTyList S e xs = true → ∀ (fuel tail : Nat),
      rtOKList S e xs = true → holdersOKList xs = true → unkOKList P S e xs = true →
      2 * depthList (toWireList S e xs) + 1 ≤ fuel →
      readList P S total fuel e (toWireListH S e xs) tail = .ok (normListH S e xs)) := by
  apply typed_induct hS
  case sc =>
    intro k n hk hb ht fuel tail slot _ _ _ _ _ _
    have hn : k = .bool → n < 2 := by rintro rfl; simpa [hasTy] using ht
    rw [readSlot_nonptr P S total _ _ _ _ _ rfl]
    simp only [Ty.tt, specFixed_scalar k hk hb, ↓reduceIte]
    exact readFixed_scalar k n hk hb hn
  case str =>
    intro s fuel tail slot _ _ _ _ _ hd
    obtain ⟨f, rfl⟩ : ∃ f, fuel = f + 1 := ⟨fuel - 1, by omega⟩
    exact readSlot_string P S total f .string rfl s tail slot
  case bin =>
    intro n s _ fuel tail slot _ _ _ _ _ hd
    obtain ⟨f, rfl⟩ : ∃ f, fuel = f + 1 := ⟨fuel - 1, by omega⟩
    exact readSlot_string P S total f .binary rfl s tail slot
  case nilB => intro k fuel tail slot hnil; cases hnil
  case nilS =>
    -- written as an empty struct: read into the initialised zero struct; accepted as no field is required
    intro sid fuel tail slot _ hr _ _ _ hd
    simp only [toWire, depth, depthFields] at hd
    obtain ⟨f, rfl⟩ : ∃ f, fuel = f + 2 := ⟨fuel - 2, by omega⟩
    rw [readSlot_ptr P S total _ _ _ _ _ rfl, readSlot_nonfixed P S total _ _ _ _ _ rfl rfl]
    simp only [toWireH]
    obtain ⟨ds, h', hi, hty⟩ := initDest_typed S hside sid _ (hside.zeroOk sid)
    have hreq : ∀ g ∈ (S.get sid).fields, g.req = .required → g.id ∈ ([] : List Nat) := by
      intro g hg hreq
      simp only [rtOK, List.all_eq_true, bne_iff_ne, ne_eq] at hr
      exact absurd hreq (hr g hg)
    have hs : readStruct P S total (f + 1) sid [] tail (.st ds h') = .ok (.st ds h') := by
      simpa [serFields] using readStruct_known_unknown P S total f sid tail [] [] ds ds h' []
        (readFields_nil ..) (fun _ h => nomatch h) hreq
    rw [readVal_strct, hi, hs]
    simp only [Outcome.mapv, normH, hi]
  case ptr =>
    intro e w _ he _ ih fuel tail slot _ hr hho hu _ hd
    have hr' : rtOK S e w = true := by cases e <;> exact hr
    simp only [toWireH]
    rw [readSlot_ptr P S total _ _ _ _ _ he,
      ih fuel tail (zeroVal S S.length e) (nilOK_of_notPtr he w) hr' hho hu
        (fun sid _ => zeroVal_typed S hside e) hd]
    simp only [Outcome.mapv, normH]
  case lst =>
    intro s e n xs _ _ _ _ ih fuel tail slot _ hr hho hu _ hd
    have hdl : 2 * depthList (toWireList S e xs) + 3 ≤ fuel := by
      cases s <;> simp only [toWire, depth, ↓reduceIte, Bool.false_eq_true] at hd <;> omega
    obtain ⟨f, rfl⟩ : ∃ f, fuel = f + 1 := ⟨fuel - 1, by omega⟩
    have hfx : specFixed (Ty.list s e).tt = 0 := by cases s <;> rfl
    rw [readSlot_nonfixed P S total _ _ _ _ _ rfl hfx]
    simp only [toWireH]
    rw [readVal_list_or_set, ih f tail hr hho hu (by omega)]
    simp only [Outcome.mapv, normH]
  case mp =>
    intro k v n es _ _ _ _ ih fuel tail slot _ hr hho hu _ hd
    simp only [toWire, depth] at hd
    obtain ⟨f, rfl⟩ : ∃ f, fuel = f + 1 := ⟨fuel - 1, by omega⟩
    rw [readSlot_nonfixed P S total _ _ _ _ _ rfl rfl]
    simp only [toWireH]
    rw [readVal_map, if_neg (by simp), ih [] f tail hr hho hu (by omega)]
    simp only [Outcome.mapv, normH]
  case st =>
    intro sid xs h _ ht ih fuel tail slot _ hr hho hu hslot hd
    simp only [rtOK, holdersOK, unkOK, toWire, depth, Bool.and_eq_true, decide_eq_true_eq] at hr hho hu hd
    obtain ⟨f, rfl⟩ : ∃ f, fuel = f + 2 := ⟨fuel - 2, by omega⟩
    rw [readSlot_nonfixed P S total _ _ _ _ _ rfl rfl]
    simp only [toWireH]
    obtain ⟨ds, h', hi, hty⟩ := initDest_typed S hside sid _ (hslot sid rfl)
    have hloop := ih (S.get sid) [] [] ds [] f ((serFields (holderFields h)).length + (tail + 1))
      rfl (hside.distinct sid) (hside.noNocopy sid) rfl hty hr hho.2 hu.2 (by omega)
    simp only [List.nil_append] at hloop
    rw [readVal_strct, hi, readStruct_known_unknown P S total f sid tail _ _ ds _ h' _ hloop
      ((unkFieldsOK_iff P _ _).1 hu.1) (seenOf_required S (S.get sid) (S.get sid).fields xs [] ht)]
    simp only [normH, hi, hho.1]
  case lnil => intro e fuel tail _ _ _ _; exact readList_nil ..
  case lcons =>
    intro e x r _ hp _ _ ihx ihr fuel tail hr hho hu hd
    simp only [rtOKList, holdersOKList, unkOKList, toWireList, depthList, Bool.and_eq_true] at hr hho hu hd
    simp only [toWireListH, normListH]
    rw [readList_cons, ihx fuel _ _ (nilOK_of_elem hp x) hr.1 hho.1 hu.1
      (fun sid _ => zeroVal_typed S hside e) (by omega), ihr fuel tail hr.2 hho.2 hu.2 (by omega)]
    rfl
  case enil => intro k v acc fuel tail _ _ _ _; exact readEntries_nil ..
  case econs =>
    intro k v a b r hk hv _ _ _ iha ihb ihr acc fuel tail hr hho hu hd
    simp only [rtOKEntries, holdersOKEntries, unkOKEntries, toWireEntries, depthEntries, Bool.and_eq_true]
      at hr hho hu hd
    simp only [toWireEntriesH, normEntriesH]
    rw [readEntries_cons, iha fuel _ _ (nilOK_of_elem hk.2 a) hr.1.1 hho.1.1 hu.1.1
      (fun sid _ => zeroVal_typed S hside k) (by omega),
      ihb fuel _ _ (nilOK_of_elem hv.2 b) hr.1.2 hho.1.2 hu.1.2
      (fun sid _ => zeroVal_typed S hside v) (by omega)]
    exact ihr _ fuel tail hr.2 hho.2 hu.2 (by omega)
  case fnil =>
    intro sd pre done ds seen fuel tail _ _ _ _ hds _ _ _ _
    cases ds with
    | nil => exact readFields_nil ..
    | cons _ _ => simp [hasTyFields] at hds
  case fcons =>
    -- a written field is looked up (found at `pre.length`), read into its slot `d` and stored; an omitted one is passed
    intro f fr x xr hfok htx _ ihx ihr sd pre done ds seen fuel tail hsd hpw hnc hlen hds hr hho hu hd
    cases ds with
    | nil => simp [hasTyFields] at hds
    | cons d dr =>
      simp only [hasTyFields, holdersOKList, unkOKFields, rtOKFields, Bool.and_eq_true, Bool.or_eq_true,
        Bool.not_eq_true'] at hds hho hu hr
      have hsd' : sd.fields = (pre ++ [f]) ++ fr := by simp [hsd]
      have hnc' : ∀ g ∈ fr, g.nocopy = false := fun g hg => hnc g (List.mem_cons_of_mem _ hg)
      by_cases hw : fieldWritten sd f x = true
      · have hnil := nilOK_of_written hfok hw
        have hrx : rtOK S f.ty x = true := by
          rcases hr.1 with h | h
          · rw [hw] at h; cases h
          · exact h
        simp only [toWireFields, hw, ↓reduceIte, depthFields] at hd
        simp only [toWireFieldsH, normFieldsH, seenOf, hw, ↓reduceIte]
        have hk := lookupKnown_at sd pre f fr hsd hpw
        rw [← toWireH_tag S x f.ty hnil htx] at hk
        rw [readFields_known P S total hk, getD_at done d dr pre.length hlen,
          readField_eq, if_neg (by simp [hnc f (List.mem_cons_self ..)]),
          ihx fuel _ d hnil hrx hho.1 hu.1 (fun sid _ => hds.1) (by omega)]
        simp only [Outcome.bind]
        rw [set_at done d _ dr pre.length hlen,
          ihr sd (pre ++ [f]) (done ++ [normH S f.ty x d]) dr (f.id :: seen) fuel tail
            hsd' hpw hnc' (by simp [hlen]) hds.2 hr.2 hho.2 hu.2 (by omega)]
        simp
      · simp only [toWireFields, hw, Bool.false_eq_true, ↓reduceIte] at hd
        simp only [toWireFieldsH, normFieldsH, seenOf, hw, Bool.false_eq_true, ↓reduceIte]
        simpa only [List.append_assoc, List.singleton_append] using
          ihr sd (pre ++ [f]) (done ++ [d]) dr seen fuel tail hsd' hpw hnc' (by simp [hlen]) hds.2 hr.2 hho.2 hu.2 hd

theorem readSlot_normH : ∀ (v : Val) (t : Ty) (fuel tail : Nat) (slot : Val),
    t.ok = true → nilOK t v = true → hasTy S t v = true → rtOK S t v = true →
    holdersOK v = true → unkOK P S t v = true →
    (∀ sid, t = .strct sid → hasTy S t slot = true) →
    2 * depth (toWireH S t v) + 1 ≤ fuel →
    readSlot P S total fuel t (toWireH S t v) tail slot = .ok (normH S t v slot) :=
  fun v t fuel tail slot hok hnil ht hr hho hu hslot hd =>
    (read_normH_all P S total hS hside).1 t v hok ht fuel tail slot hnil hr hho hu hslot
      (Nat.le_trans (Nat.succ_le_succ (Nat.mul_le_mul_left 2 ((depth_toWire_le S).1 t v ht))) hd)

theorem readList_normH : ∀ (xs : List Val) (e : Ty) (fuel tail : Nat),
    e.ok = true → (!e.isPtr || e.isStructPtr) = true → hasTyList S e xs = true → rtOKList S e xs = true →
    holdersOKList xs = true → unkOKList P S e xs = true →
    2 * depthList (toWireListH S e xs) + 1 ≤ fuel →
    readList P S total fuel e (toWireListH S e xs) tail = .ok (normListH S e xs) :=
  fun xs e fuel tail hok hp ht hr hho hu hd =>
    (read_normH_all P S total hS hside).2.2.2 e xs hok hp ht fuel tail hr hho hu
      (Nat.le_trans (Nat.succ_le_succ (Nat.mul_le_mul_left 2 ((depth_toWire_le S).2.2.2 e xs ht))) hd)

theorem readEntries_normH : ∀ (es : List (Val × Val)) (k v : Ty) (acc : List (Val × Val)) (fuel tail : Nat),
    k.ok = true → v.ok = true → (!k.isPtr || k.isStructPtr) = true → (!v.isPtr || v.isStructPtr) = true →
    hasTyEntries S k v es = true → rtOKEntries S k v es = true →
    holdersOKEntries es = true → unkOKEntries P S k v es = true →
    2 * depthEntries (toWireEntriesH S k v es) + 1 ≤ fuel →
    readEntries P S total fuel k v (toWireEntriesH S k v es) tail acc = .ok (normEntriesH S k v es acc) :=
  fun es k v acc fuel tail hk hv hkp hvp ht hr hho hu hd =>
    (read_normH_all P S total hS hside).2.2.1 k v es ⟨hk, hkp⟩ ⟨hv, hvp⟩ ht acc fuel tail hr hho hu
      (Nat.le_trans (Nat.succ_le_succ (Nat.mul_le_mul_left 2 ((depth_toWire_le S).2.2.1 k v es ht))) hd)

theorem readFields_normH : ∀ (xs : List Val) (sd : SDesc) (fs pre : List Field) (done ds : List Val)
    (seen : List Nat) (fuel tail : Nat),
    sd.fields = pre ++ fs → sd.fields.Pairwise (fun a b => a.id ≠ b.id) →
    (∀ g ∈ fs, g.ok = true ∧ g.nocopy = false) → done.length = pre.length →
    hasTyFields S fs xs = true → hasTyFields S fs ds = true → rtOKFields S sd fs xs = true →
    holdersOKList xs = true → unkOKFields P S fs xs = true →
    2 * depthFields (toWireFieldsH S sd fs xs) + 1 ≤ fuel →
    readFields P S total fuel sd (toWireFieldsH S sd fs xs) tail { fs := done ++ ds, seen := seen, unk := [] } =
      .ok { fs := done ++ normFieldsH S sd fs xs ds, seen := seenOf sd fs xs seen, unk := [] } :=
  fun xs sd fs pre done ds seen fuel tail hsd hpw hok hlen ht hds hr hho hu hd =>
    (read_normH_all P S total hS hside).2.1 fs xs (fun g hg => (hok g hg).1) ht sd pre done ds seen fuel tail
      hsd hpw (fun g hg => (hok g hg).2) hlen hds hr hho hu
      (Nat.le_trans (Nat.succ_le_succ (Nat.mul_le_mul_left 2 ((depth_toWire_le S).2.1 fs xs ht sd))) hd)

end

theorem readMessage_normH {P : Params} (S : Schema) (hS : S.ok = true) (hside : S.rtSide) (sid : Nat)
    (xs : List Val) (h : Bytes) (ds : List Val) (h' : Bytes) (trailing : Nat)
    (ht : hasTy S (.strct sid) (.st xs h) = true) (hdest : hasTy S (.strct sid) (.st ds h') = true)
    (hr : rtOK S (.strct sid) (.st xs h) = true) (hho : holdersOK (.st xs h) = true)
    (hu : unkOK P S (.strct sid) (.st xs h) = true)
    (hd : 2 * depth (toWire S (.strct sid) (.st xs h)) ≤ P.maxDepth) :
    readMessage P S sid (toWireFieldsH S (S.get sid) (S.get sid).fields xs ++ holderFields h) trailing
      (.st ds h') = .ok (normTopH S sid (.st xs h) (.st ds h')) := by
  unfold readMessage
  simp only [hasTy, Bool.and_eq_true] at ht hdest
  simp only [holdersOK, Bool.and_eq_true, decide_eq_true_eq] at hho
  simp only [unkOK, Bool.and_eq_true] at hu
  simp only [toWire, depth] at hd
  obtain ⟨f, hf⟩ : ∃ f, P.maxDepth = f + 1 := ⟨P.maxDepth - 1, by omega⟩
  rw [hf]
  generalize (ser _).length + trailing = total
  have hloop := (read_normH_all P S total hS hside).2.1 _ xs (sd_fields_ok hS sid) ht.2 (S.get sid) [] [] ds [] f
    ((serFields (holderFields h)).length + (trailing + 1)) rfl (hside.distinct sid) (hside.noNocopy sid) rfl
    hdest.2 hr hho.2 hu.2 (by omega)
  simp only [List.nil_append] at hloop
  rw [readStruct_known_unknown P S total f sid trailing _ _ ds _ h' _ hloop ((unkFieldsOK_iff P _ _).1 hu.1)
    (seenOf_required S (S.get sid) (S.get sid).fields xs [] ht.2)]
  simp only [normTopH, hho.1]

end Frugal
