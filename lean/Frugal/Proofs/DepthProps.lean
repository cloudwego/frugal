/- Induction on the budget around inductions on the loops' lists (`ValFits`, `valFits`). -/
import Frugal.Proofs.ReaderInd
namespace Frugal

/-- the skipper does not recurse for a scalar or string element -/
theorem skipNeed_elem_le (v : TVal) {d : Nat} (h : skipNeed v ≤ d) : (if v.isScalarOrStr then 0 else skipNeed v) ≤ d := by
  by_cases hv : v.isScalarOrStr = true
  · rw [if_pos hv]; exact Nat.zero_le _
  · rw [if_neg hv]; exact h

theorem max_le_max_succ {x y a b : Nat} (hx : x ≤ a + 1) (hy : y ≤ b + 1) : max x y ≤ max a b + 1 := by
  omega

mutual
theorem skipNeed_le : ∀ v : TVal, skipNeed v ≤ depth v + 1
  | .bool _ | .i8 _ | .double _ | .i16 _ | .i32 _ | .i64 _ | .str _ => Nat.le_refl 1
  | .strct fs => Nat.succ_le_succ (skipNeedFields_le fs)
  | .map _ _ es => Nat.succ_le_succ (skipNeedEntries_le es)
  | .set _ xs | .list _ xs => Nat.succ_le_succ (skipNeedList_le xs)
termination_by structural v => v
theorem skipNeedFields_le : ∀ fs : List (Nat × TVal), skipNeedFields fs ≤ depthFields fs + 1
  | [] => Nat.zero_le _
  | (_, v) :: r => max_le_max_succ (skipNeed_elem_le v (skipNeed_le v)) (skipNeedFields_le r)
termination_by structural fs => fs
theorem skipNeedEntries_le : ∀ es : List (TVal × TVal), skipNeedEntries es ≤ depthEntries es + 1
  | [] => Nat.zero_le _
  | (a, b) :: r =>
    max_le_max_succ
      (max_le_max_succ (skipNeed_elem_le a (skipNeed_le a)) (skipNeed_elem_le b (skipNeed_le b)))
      (skipNeedEntries_le r)
termination_by structural es => es
theorem skipNeedList_le : ∀ xs : List TVal, skipNeedList xs ≤ depthList xs + 1
  | [] => Nat.zero_le _
  | v :: r => max_le_max_succ (skipNeed_elem_le v (skipNeed_le v)) (skipNeedList_le r)
termination_by structural xs => xs
end

theorem readFixed_noDepth (t : TT) (tv : TVal) : (readFixed t tv).isDepthErr = false := by
  rcases readFixed_cases t tv with ⟨n, h⟩ | h <;> rw [h] <;> rfl

theorem readStr_noDepth (a b : Bool) (total tail : Nat) (tv : TVal) : (readStr a b total tail tv).isDepthErr = false := by
  cases tv with
  | str s =>
    unfold readStr
    dsimp only
    split <;> rfl
  | _ => rfl

theorem fits_max {a b fuel s : Nat} (hf : 2 * max a b + 1 ≤ fuel) (hs : max a b < s) :
    (2 * a + 1 ≤ fuel ∧ a < s) ∧ (2 * b + 1 ≤ fuel ∧ b < s) :=
  ⟨⟨by omega, by omega⟩, ⟨by omega, by omega⟩⟩

/-- a container uses one unit on the way to its elements, a struct two on the way to its fields -/
theorem fits_succ {d fuel s : Nat} (hf : 2 * (d + 1) + 1 ≤ fuel + 1) (hs : d + 1 < s) :
    2 * d + 2 ≤ fuel ∧ d < s :=
  ⟨by omega, by omega⟩

section
variable (P : Params) (S : Schema) (total : Nat)

/-- no value within the budget `fuel` and the skipper's limit gets the depth error from `readVal` -/
def ValFits (fuel : Nat) : Prop := ∀ (t : Ty) (tv : TVal) (tail : Nat) (dest : Val),
  2 * depth tv + 1 ≤ fuel → depth tv < P.skipDepth → (readVal P S total fuel t tv tail dest).isDepthErr = false

variable {P S total}

theorem ValFits.readSlot {fuel : Nat} (hv : ValFits P S total fuel) (t : Ty) (x : TVal) (tail : Nat) (slot : Val)
    (hf : 2 * depth x + 1 ≤ fuel) (hs : depth x < P.skipDepth) :
    (readSlot P S total fuel t x tail slot).isDepthErr = false := by
  rw [readSlot_eq, mapv_isDepthErr]
  exact ite_isDepthErr (readFixed_noDepth _ _) (hv _ _ _ _ hf hs)

theorem ValFits.readList {fuel : Nat} (hv : ValFits P S total fuel) (et : Ty) (tail : Nat) :
    ∀ xs : List TVal, 2 * depthList xs + 1 ≤ fuel → depthList xs < P.skipDepth →
      (readList P S total fuel et xs tail).isDepthErr = false
  | [], _, _ => by rw [readList_nil]; rfl
  | x :: r, hf, hs => by
    obtain ⟨hx, hr⟩ := fits_max hf hs
    rw [readList_cons]
    refine bind_isDepthErr (hv.readSlot et x _ _ hx.1 hx.2) fun _ => ?_
    rw [mapv_isDepthErr]
    exact hv.readList et tail r hr.1 hr.2

theorem ValFits.readEntries {fuel : Nat} (hv : ValFits P S total fuel) (kt vt : Ty) (tail : Nat) :
    ∀ (es : List (TVal × TVal)) (acc : List (Val × Val)), 2 * depthEntries es + 1 ≤ fuel →
      depthEntries es < P.skipDepth → (readEntries P S total fuel kt vt es tail acc).isDepthErr = false
  | [], _, _, _ => by rw [readEntries_nil]; rfl
  | (a, b) :: r, acc, hf, hs => by
    obtain ⟨hab, hr⟩ := fits_max hf hs
    obtain ⟨ha, hb⟩ := fits_max hab.1 hab.2
    rw [readEntries_cons]
    exact bind_isDepthErr (hv.readSlot kt a _ _ ha.1 ha.2) fun _ =>
      bind_isDepthErr (hv.readSlot vt b _ _ hb.1 hb.2) fun _ => hv.readEntries kt vt tail r _ hr.1 hr.2

theorem ValFits.readFields {fuel : Nat} (hv : ValFits P S total fuel) (sd : SDesc) (tail : Nat) :
    ∀ (fs : List (Nat × TVal)) (st : LoopSt), 2 * depthFields fs + 1 ≤ fuel → depthFields fs < P.skipDepth →
      (readFields P S total fuel sd fs tail st).isDepthErr = false
  | [], _, _, _ => by rw [readFields_nil]; rfl
  | (id, v) :: r, st, hf, hs => by
    obtain ⟨hv', hr⟩ := fits_max hf hs
    cases hk : lookupKnown sd id v.tag with
    | none =>
      -- the skipper needs one level more than the value is deep
      rw [readFields_unknown P S total hk, if_neg (Nat.not_lt.2 (Nat.le_trans (skipNeed_le v) hv'.2))]
      exact hv.readFields sd tail r _ hr.1 hr.2
    | some p =>
      rw [readFields_known P S total hk, readField_eq]
      refine bind_isDepthErr (ite_isDepthErr ?_ (hv.readSlot p.2.ty v _ _ hv'.1 hv'.2)) fun _ =>
        hv.readFields sd tail r _ hr.1 hr.2
      rw [mapv_isDepthErr]
      exact readStr_noDepth _ _ _ _ _

/-- the struct wrapper adds only the required-field verdict, never a depth error of its own -/
theorem ValFits.readStruct {fuel : Nat} (hv : ValFits P S total fuel) (sid : Nat) (fs : List (Nat × TVal))
    (tail : Nat) (dest : Val) (hf : 2 * depthFields fs + 1 ≤ fuel) (hs : depthFields fs < P.skipDepth) :
    (readStruct P S total (fuel + 1) sid fs tail dest).isDepthErr = false := by
  cases dest with
  | st vs h =>
    rw [readStruct_st]
    refine bind_isDepthErr (hv.readFields (S.get sid) (tail + 1) fs _ hf hs) fun st => ?_
    cases firstMissing (S.get sid).fields st.seen <;> rfl
  | _ => unfold Frugal.readStruct; rfl

variable (P S total)

/-- a value read with `fuel + 1` reads containers with `fuel` and a struct's fields with `fuel - 1`,
    which is where the factor 2 of the budget comes from -/
theorem valFits (fuel : Nat) : ValFits P S total fuel ∧ ∀ sid fs tail dest,
    2 * depthFields fs + 2 ≤ fuel → depthFields fs < P.skipDepth →
    (readStruct P S total fuel sid fs tail dest).isDepthErr = false := by
  induction fuel with
  | zero => exact ⟨fun _ _ _ _ h _ => absurd h (Nat.not_succ_le_zero _), fun _ _ _ _ h _ => absurd h (Nat.not_succ_le_zero _)⟩
  | succ n ih =>
    refine ⟨fun t tv tail dest hf hs => ?_,
      fun sid fs tail dest hf hs => ih.1.readStruct sid fs tail dest (Nat.le_of_succ_le_succ hf) hs⟩
    rw [readVal_succ]
    have hsp := readShape_spec t tv
    generalize readShape t tv = sh at hsp ⊢
    cases sh with
    | const o =>
      rcases hsp with ⟨_, rfl⟩ | ⟨e, rfl, he⟩
      · exact readFixed_noDepth _ _
      · exact (isDepthErr_err e).trans (beq_false_of_ne he)
    | str isBin => exact readStr_noDepth _ _ _ _ _
    | map kt vt es =>
      obtain ⟨rfl, rfl⟩ := hsp
      have hd := fits_succ hf hs
      exact (mapv_isDepthErr _ _).trans (ih.1.readEntries kt vt tail es _ (Nat.le_of_succ_le hd.1) hd.2)
    | list et xs =>
      have hd : 2 * depthList xs + 2 ≤ n ∧ depthList xs < P.skipDepth := by
        rcases hsp.2 with rfl | rfl <;> exact fits_succ hf hs
      exact (mapv_isDepthErr _ _).trans (ih.1.readList et tail xs (Nat.le_of_succ_le hd.1) hd.2)
    | strct sid fs =>
      obtain ⟨rfl, rfl⟩ := hsp
      have hd := fits_succ hf hs
      exact ih.2 sid fs tail _ hd.1 hd.2

theorem readVal_noDepth : ∀ (tv : TVal) (fuel : Nat) (t : Ty) (tail : Nat) (dest : Val),
    2 * depth tv + 1 ≤ fuel → depth tv < P.skipDepth → (readVal P S total fuel t tv tail dest).isDepthErr = false :=
  fun tv fuel t tail dest => (valFits P S total fuel).1 t tv tail dest

theorem readList_noDepth : ∀ (xs : List TVal) (fuel : Nat) (et : Ty) (tail : Nat),
    2 * depthList xs + 1 ≤ fuel → depthList xs < P.skipDepth →
      (readList P S total fuel et xs tail).isDepthErr = false :=
  fun xs fuel et tail => (valFits P S total fuel).1.readList et tail xs

theorem readEntries_noDepth : ∀ (es : List (TVal × TVal)) (fuel : Nat) (kt vt : Ty) (tail : Nat) (acc : List (Val × Val)),
    2 * depthEntries es + 1 ≤ fuel → depthEntries es < P.skipDepth →
      (readEntries P S total fuel kt vt es tail acc).isDepthErr = false :=
  fun es fuel kt vt tail acc => (valFits P S total fuel).1.readEntries kt vt tail es acc
end

theorem shallow_accepted (P : Params) (S : Schema) (sid : Nat) (fs : List (Nat × TVal)) (trailing : Nat) (dest : Val)
    (hd : depth (.strct fs) ≤ 48) (hmax : 96 ≤ P.maxDepth) (hskip : P.skipDepth = 64) :
    (readMessage P S sid fs trailing dest).isDepthErr = false := by
  simp only [depth] at hd
  exact (valFits P S _ P.maxDepth).2 sid fs trailing dest (by omega) (by omega)

end Frugal
