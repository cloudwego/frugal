/- `Frame`: at every moment of a build, rolling back would restore the caches the use started from.
   `BuildOK`: a build that succeeds only adds complete entries, so the caches hold accepted types only (`CInv`).
   `build_complete`: the budget is never exhausted, so a build that fails has met a struct that does not resolve. -/
import Frugal.BuildCache
namespace Frugal

variable (R : List (Option SDesc))

/-- the resolution result of the struct a key names -/
def bres (k : BKey) : Option SDesc := R.getD k.1 none

/-- `n` is reachable from `k` through struct-typed fields of structs that resolve -/
inductive BReach : BKey → BKey → Prop
  | refl (k : BKey) : BReach k k
  | step {k m n : BKey} {sd : SDesc} : bres R k = some sd → m ∈ sd.keyRefs → BReach m n → BReach k n

/-- every struct reachable from `k` (itself included) resolves: the type is accepted -/
def BGood (k : BKey) : Prop := ∀ k', BReach R k k' → (bres R k').isSome = true

theorem good_resolves {k : BKey} (h : BGood R k) : ∃ sd, bres R k = some sd :=
  Option.isSome_iff_exists.1 (h k (.refl k))

theorem good_step {k n : BKey} {sd : SDesc} (h : BGood R k) (hk : bres R k = some sd)
    (hn : n ∈ sd.keyRefs) : BGood R n :=
  fun k' hr => h k' (BReach.step hk hn hr)

/-- a set of keys that resolve and is closed under references consists of accepted types -/
theorem good_of_closed (C : BKey → Prop)
    (hC : ∀ x, C x → ∃ sd, bres R x = some sd ∧ ∀ n ∈ sd.keyRefs, C n) :
    ∀ x, C x → BGood R x := by
  intro x hx k' hr
  induction hr with
  | refl k =>
    obtain ⟨sd, h, _⟩ := hC k hx
    simp [h]
  | step hk hm _ ih =>
    obtain ⟨sd', h', hcl⟩ := hC _ hx
    rw [hk] at h'
    cases h'
    exact ih (hcl _ hm)

/-- what `rollbackBuild` would leave if it ran now is `(P, L)` -/
def Frame (P L : List BKey) (s : BSt) : Prop :=
  s.pf.filter (fun k => !s.jc.contains k) = P ∧ s.linked.filter (fun n => !s.jl.contains n) = L

theorem Frame.pf_sub {P L : List BKey} {s : BSt} (h : Frame P L s) {x : BKey} (hx : x ∈ P) : x ∈ s.pf :=
  (List.mem_filter.1 (h.1 ▸ hx)).1

theorem Frame.linked_sub {P L : List BKey} {s : BSt} (h : Frame P L s) {x : BKey} (hx : x ∈ L) : x ∈ s.linked :=
  (List.mem_filter.1 (h.2 ▸ hx)).1

/-- adding `k` to a cache and to its journal changes nothing for rollback, if rollback did not keep `k` -/
theorem filter_journal (l j : List BKey) (k : BKey)
    (hk : k ∉ l.filter (fun x => !j.contains x)) :
    (k :: l).filter (fun x => !(k :: j).contains x) = l.filter (fun x => !j.contains x) := by
  rw [List.filter_cons_of_neg (by simp)]
  apply List.filter_congr
  intro x hx
  by_cases hxk : x = k
  · subst hxk
    have : x ∈ j := Decidable.byContradiction fun hj => hk (List.mem_filter.2 ⟨hx, by simpa using hj⟩)
    simp [this]
  · simp [hxk]

theorem Frame.cache {P L : List BKey} {s : BSt} {k : BKey} (h : Frame P L s) (hk : k ∉ P) :
    Frame P L { s with pf := k :: s.pf, jc := k :: s.jc } :=
  ⟨by rw [← h.1] at hk ⊢; exact filter_journal _ _ k hk, h.2⟩

theorem Frame.link {P L : List BKey} {s : BSt} {n : BKey} (h : Frame P L s) (hn : n ∉ L) :
    Frame P L { s with linked := n :: s.linked, jl := n :: s.jl } :=
  ⟨h.1, by rw [← h.2] at hn ⊢; exact filter_journal _ _ n hn⟩

/-- `delete(prefetchStructDescCache, t)` after a nested failure -/
theorem Frame.erase {P L : List BKey} {s : BSt} {k : BKey} (h : Frame P L s) (hk : k ∉ P) :
    Frame P L { s with pf := s.pf.erase k } :=
  ⟨by rw [← h.1] at hk ⊢; exact List.erase_filter.symm.trans (List.erase_of_not_mem hk), h.2⟩

theorem fetchAll_frame {P L : List BKey} (b : BKey → BSt → Bool × BSt)
    (hb : ∀ n s, Frame P L s → Frame P L (b n s).2) (refs : List BKey) (s : BSt) (h : Frame P L s) :
    Frame P L (fetchAll b refs s).2 := by
  fun_induction fetchAll b refs s with
  | case1 s => exact h                  -- no node left
  | case2 n r s hl ih => exact ih h     -- `n` is linked already: skipped
  | case3 n r s hl s' hbn ih =>         -- `n` is built, then linked and journalled
    have := hb n s h
    rw [hbn] at this
    exact ih (this.link fun hn => hl (by simpa using h.linked_sub hn))
  | case4 n r s hl s' hbn =>            -- the build of `n` fails
    have := hb n s h
    rwa [hbn] at this

theorem build_frame {P L : List BKey} : ∀ (fuel : Nat) (k : BKey) (s : BSt), Frame P L s →
    Frame P L (build R fuel k s).2
  | 0, _, _, h => h
  | fuel + 1, k, s, h => by
    rw [build]
    split
    · exact h
    next hc =>
    have hk : k ∉ P := fun hk => hc (by simpa using h.pf_sub hk)
    split
    · exact h
    next sd _ =>
    have := fetchAll_frame (build R fuel) (build_frame fuel) sd.keyRefs _ (h.cache hk)
    split
    · next e => rwa [e] at this
    · next e =>
      rw [e] at this
      exact this.erase hk

/-- a use that fails leaves the three caches as they were (C07, C13) -/
theorem useType_fail_unchanged (sid : Nat) (st : CacheSt) (h : (useType R sid st).1 = false) :
    (useType R sid st).2 = st := by
  have hf : Frame st.pf st.linked _ :=
    build_frame R (buildFuel R) (sid, false) { pf := st.pf, linked := st.linked } (by simp [Frame])
  unfold useType at h ⊢
  split
  · rfl
  split
  · next e =>
    rw [if_neg ‹_›, e] at h
    cases h
  · next e =>
    rw [e] at hf
    simp only [hf.1, hf.2]

/-- the caches only grow and everything new is complete: a newly cached key resolves and all its struct
    nodes are linked; a newly linked node is cached -/
def BuildOK (s s' : BSt) : Prop :=
  (∀ x ∈ s.pf, x ∈ s'.pf) ∧ (∀ n ∈ s.linked, n ∈ s'.linked) ∧
  (∀ x ∈ s'.pf, x ∈ s.pf ∨ ∃ sd, bres R x = some sd ∧ ∀ n ∈ sd.keyRefs, n ∈ s'.linked) ∧
  (∀ n ∈ s'.linked, n ∈ s.linked ∨ n ∈ s'.pf)

theorem BuildOK.refl (s : BSt) : BuildOK R s s :=
  ⟨fun _ h => h, fun _ h => h, fun _ h => .inl h, fun _ h => .inl h⟩

theorem BuildOK.trans {s s' s'' : BSt} (h1 : BuildOK R s s') (h2 : BuildOK R s' s'') : BuildOK R s s'' := by
  refine ⟨fun x h => h2.1 x (h1.1 x h), fun n h => h2.2.1 n (h1.2.1 n h), fun x hx => ?_, fun n hn => ?_⟩
  · rcases h2.2.2.1 x hx with h | h
    · rcases h1.2.2.1 x h with h' | ⟨sd, hs, hcl⟩
      · exact .inl h'
      · exact .inr ⟨sd, hs, fun n hn => h2.2.1 n (hcl n hn)⟩
    · exact .inr h
  · rcases h2.2.2.2 n hn with h | h
    · exact (h1.2.2.2 n h).imp_right (h2.1 n)
    · exact .inr h

theorem BuildOK.link {s : BSt} {n : BKey} (hp : n ∈ s.pf) :
    BuildOK R s { s with linked := n :: s.linked, jl := n :: s.jl } :=
  ⟨fun _ h => h, fun _ h => List.mem_cons_of_mem _ h, fun _ h => .inl h,
    fun _ hm => (List.mem_cons.1 hm).elim (fun e => .inr (e ▸ hp)) .inl⟩

theorem BuildOK.cache {s s2 : BSt} {k : BKey} {sd : SDesc} (hr : bres R k = some sd)
    (h : BuildOK R { s with pf := k :: s.pf, jc := k :: s.jc } s2) (hl : ∀ n ∈ sd.keyRefs, n ∈ s2.linked) :
    BuildOK R s s2 := by
  refine ⟨fun x hx => h.1 x (List.mem_cons_of_mem _ hx), h.2.1, fun x hx => ?_, h.2.2.2⟩
  rcases h.2.2.1 x hx with h' | h'
  · rcases List.mem_cons.1 h' with rfl | h'
    · exact .inr ⟨sd, hr, hl⟩
    · exact .inl h'
  · exact .inr h'

theorem fetchAll_ok (b : BKey → BSt → Bool × BSt)
    (hb : ∀ n s s', b n s = (true, s') → BuildOK R s s' ∧ n ∈ s'.pf) (refs : List BKey) (s s' : BSt)
    (h : fetchAll b refs s = (true, s')) : BuildOK R s s' ∧ ∀ n ∈ refs, n ∈ s'.linked := by
  fun_induction fetchAll b refs s with
  | case1 s =>                          -- the cases of `fetchAll`, as in `fetchAll_frame`
    cases h
    exact ⟨.refl R _, nofun⟩
  | case2 n r s hl ih =>
    obtain ⟨h1, h2⟩ := ih h
    exact ⟨h1, List.forall_mem_cons.2 ⟨h1.2.1 n (by simpa using hl), h2⟩⟩
  | case3 n r s hl s1 hbn ih =>
    obtain ⟨hok, hnp⟩ := hb n s s1 hbn
    obtain ⟨h1, h2⟩ := ih h
    exact ⟨(hok.trans R (.link R hnp)).trans R h1,
      List.forall_mem_cons.2 ⟨h1.2.1 n (List.mem_cons_self ..), h2⟩⟩
  | case4 => cases h

theorem build_ok : ∀ (fuel : Nat) (k : BKey) (s s' : BSt), build R fuel k s = (true, s') →
    BuildOK R s s' ∧ k ∈ s'.pf
  | 0, _, _, _, h => by cases h
  | fuel + 1, k, s, s', h => by
    rw [build] at h
    split at h
    · next hc =>
      cases h
      exact ⟨.refl R s, by simpa using hc⟩
    split at h
    · cases h
    next sd hr =>
    split at h
    · next e =>
      cases h
      obtain ⟨h1, h2⟩ := fetchAll_ok R (build R fuel) (build_ok fuel) _ _ _ e
      exact ⟨.cache R hr h1 h2, h1.1 k (List.mem_cons_self ..)⟩
    · cases h

/-- everything the three caches hold is accepted -/
structure CInv (st : CacheSt) : Prop where
  pf : ∀ x ∈ st.pf, BGood R x
  linked : ∀ n ∈ st.linked, BGood R n
  pub : ∀ sid ∈ st.pub, BGood R (sid, false)

theorem cinv_empty : CInv R {} := ⟨by simp, by simp, by simp⟩

theorem buildOK_good {s0 s : BSt} (h : BuildOK R s0 s) (hpf : ∀ x ∈ s0.pf, BGood R x)
    (hl : ∀ n ∈ s0.linked, BGood R n) : (∀ x ∈ s.pf, BGood R x) ∧ (∀ n ∈ s.linked, BGood R n) := by
  have key : ∀ x, (x ∈ s.pf ∨ BGood R x) → BGood R x := by
    apply good_of_closed R (fun x => x ∈ s.pf ∨ BGood R x)
    intro x hx
    have goodCase : BGood R x → ∃ sd, bres R x = some sd ∧ ∀ n ∈ sd.keyRefs, n ∈ s.pf ∨ BGood R n := by
      intro hg
      obtain ⟨sd, hsd⟩ := good_resolves R hg
      exact ⟨sd, hsd, fun n hn => .inr (good_step R hg hsd hn)⟩
    rcases hx with hx | hx
    · rcases h.2.2.1 x hx with h0 | ⟨sd, hsd, hcl⟩
      · exact goodCase (hpf x h0)
      · exact ⟨sd, hsd, fun n hn => (h.2.2.2 n (hcl n hn)).symm.imp_right (hl n)⟩
    · exact goodCase hx
  exact ⟨fun x hx => key x (.inl hx), fun n hn => (h.2.2.2 n hn).elim (hl n) fun h1 => key n (.inl h1)⟩

theorem useType_inv (sid : Nat) (st : CacheSt) (hinv : CInv R st) :
    CInv R (useType R sid st).2 ∧ ((useType R sid st).1 = true → BGood R (sid, false)) := by
  cases hok : (useType R sid st).1 with
  | false =>
    rw [useType_fail_unchanged R sid st hok]
    exact ⟨hinv, nofun⟩
  | true =>
    unfold useType at hok ⊢
    split
    · next hp => exact ⟨hinv, fun _ => hinv.pub sid (by simpa using hp)⟩
    rw [if_neg ‹_›] at hok
    split
    · next s e =>
      obtain ⟨hbo, hin⟩ := build_ok R _ _ _ s e
      obtain ⟨g1, g2⟩ := buildOK_good R hbo hinv.pf hinv.linked
      exact ⟨⟨g1, g2, List.forall_mem_cons.2 ⟨g1 _ hin, hinv.pub⟩⟩, fun _ => g1 _ hin⟩
    · next e =>
      rw [e] at hok
      cases hok

theorem useAll_inv : ∀ (hist : List Nat) (st : CacheSt), CInv R st → CInv R (useAll R hist st)
  | [], _, h => h
  | sid :: r, st, h => useAll_inv r _ (useType_inv R sid st h).1

/-- every key of the universe: each struct, and the pointer to it -/
def allKeys : List BKey := (List.range R.length).flatMap fun i => [(i, false), (i, true)]

/-- how many keys of the universe are not cached yet: what a build can still use of its budget -/
def remaining (s : BSt) : Nat := ((allKeys R).filter fun x => !s.pf.contains x).length

theorem mem_allKeys {k : BKey} (h : k.1 < R.length) : k ∈ allKeys R := by
  obtain ⟨i, b⟩ := k
  simp only [allKeys, List.mem_flatMap, List.mem_range, List.mem_cons, Prod.mk.injEq, List.not_mem_nil, or_false]
  exact ⟨i, h, by cases b <;> simp⟩

theorem allKeys_length : (allKeys R).length = 2 * R.length := by
  simp [allKeys, List.length_flatMap, List.map_const', List.sum_replicate_nat, Nat.mul_comm]

theorem remaining_le (s : BSt) : remaining R s ≤ 2 * R.length :=
  allKeys_length R ▸ List.length_filter_le _ (allKeys R)

theorem remaining_cache (s : BSt) (k : BKey) (hk : k ∉ s.pf) (hR : k.1 < R.length) :
    remaining R { s with pf := k :: s.pf, jc := k :: s.jc } < remaining R s := by
  have e : (allKeys R).filter (fun x => !(k :: s.pf).contains x) =
      ((allKeys R).filter fun x => !s.pf.contains x).filter (· != k) := by
    rw [List.filter_filter]
    exact List.filter_congr fun x _ => by by_cases hx : x = k <;> simp [hx]
  unfold remaining
  rw [e]
  exact List.length_filter_lt_length_iff_exists.2
    ⟨k, List.mem_filter.2 ⟨mem_allKeys R hR, by simpa using hk⟩, by simp⟩

theorem remaining_mono {s s' : BSt} (h : ∀ x ∈ s.pf, x ∈ s'.pf) : remaining R s' ≤ remaining R s := by
  unfold remaining
  rw [← List.countP_eq_length_filter, ← List.countP_eq_length_filter]
  refine List.countP_mono_left fun x _ hx => ?_
  have hx : x ∉ s'.pf := by simpa using hx
  simpa using fun hm => hx (h x hm)

theorem fetchAll_complete (fuel : Nat) (b : BKey → BSt → Bool × BSt)
    (hok : ∀ n s s', b n s = (true, s') → BuildOK R s s' ∧ n ∈ s'.pf)
    (hb : ∀ n s s', remaining R s < fuel → b n s = (false, s') → ¬ BGood R n)
    (refs : List BKey) (s s' : BSt) (hrem : remaining R s < fuel) (h : fetchAll b refs s = (false, s')) :
    ∃ n ∈ refs, ¬ BGood R n := by
  fun_induction fetchAll b refs s with
  | case1 => cases h                    -- the cases of `fetchAll`, as in `fetchAll_frame`
  | case2 n r s hl ih =>
    exact (ih hrem h).imp fun m hm => ⟨List.mem_cons_of_mem _ hm.1, hm.2⟩
  | case3 n r s hl s1 hbn ih =>
    have := remaining_mono R (hok n s s1 hbn).1.1
    exact (ih (Nat.lt_of_le_of_lt this hrem) h).imp fun m hm => ⟨List.mem_cons_of_mem _ hm.1, hm.2⟩
  | case4 n r s hl s1 hbn =>
    exact ⟨n, List.mem_cons_self .., hb n s s1 hrem hbn⟩

/-- with more fuel than keys left to cache, a failing build has found a struct that does not resolve -/
theorem build_complete : ∀ (fuel : Nat) (k : BKey) (s s' : BSt), remaining R s < fuel →
    build R fuel k s = (false, s') → ¬ BGood R k
  | 0, _, _, _, hrem, _ => by omega
  | fuel + 1, k, s, s', hrem, h => by
    rw [build] at h
    split at h
    · cases h
    next hc =>
    split at h
    · next hr =>
      intro hg
      obtain ⟨sd, hsd⟩ := good_resolves R hg
      rw [bres, hr] at hsd
      cases hsd
    next sd hr =>
    have hlt : k.1 < R.length := by
      refine Nat.lt_of_not_le fun hh => ?_
      simp [List.getD_eq_getElem?_getD, List.getElem?_eq_none hh] at hr
    have hrem1 := remaining_cache R s k (by simpa using hc) hlt
    split at h
    · cases h
    · next e =>
      obtain ⟨n, hn, hg⟩ := fetchAll_complete R fuel (build R fuel) (build_ok R fuel) (build_complete fuel)
        sd.keyRefs _ _ (by omega) e
      exact fun hk => hg (good_step R hk hr hn)

/-- in any state that satisfies `CInv`, a use succeeds exactly when every struct reachable from the type
    resolves (C07, C13) -/
theorem useType_ok_iff (sid : Nat) (st : CacheSt) (hinv : CInv R st) :
    (useType R sid st).1 = true ↔ BGood R (sid, false) := by
  refine ⟨(useType_inv R sid st hinv).2, fun hg => ?_⟩
  unfold useType
  split
  · rfl
  split
  · rfl
  · next e =>
    have hrem := remaining_le R { pf := st.pf, linked := st.linked }
    exact absurd hg (build_complete R _ _ _ _ (by unfold buildFuel; omega) e)

theorem use_history_independent (hist : List Nat) (sid : Nat) :
    (useType R sid (useAll R hist {})).1 = (useType R sid {}).1 :=
  Bool.eq_iff_iff.2 <|
    (useType_ok_iff R sid _ (useAll_inv R hist {} (cinv_empty R))).trans (useType_ok_iff R sid {} (cinv_empty R)).symm

end Frugal
