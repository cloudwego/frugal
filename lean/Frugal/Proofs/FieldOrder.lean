/-
  As far as the field values go the field loop is a fold of one step per field (`fsRun`); two steps that
  write different destination fields, or skip, commute when both succeed; induction over `List.Perm`.
  Two occurrences of one field do not commute (the last wins, or a by-value struct merges): hence `Nodup`.
-/
import Frugal.Proofs.KnownOnly
import Frugal.Proofs.DecodeRefine
namespace Frugal

/-- a list collected head by head is permuted when the list it is collected from is -/
theorem perm_collect {α β : Type} {F : List α → List β} {g : α → List β} (hF : ∀ x l, F (x :: l) = g x ++ F l)
    {l1 l2 : List α} (hp : l1.Perm l2) : (F l1).Perm (F l2) := by
  induction hp with
  | nil => exact List.Perm.refl _
  | cons x _ ih =>
    rw [hF, hF]
    exact List.Perm.append_left _ ih
  | swap x y l =>
    rw [hF, hF, hF, hF, ← List.append_assoc, ← List.append_assoc]
    exact List.Perm.append_right _ List.perm_append_comm
  | trans _ _ ih1 ih2 => exact ih1.trans ih2

theorem writtenIxs_perm (sd : SDesc) {l1 l2 : List (Nat × TVal)} (hp : l1.Perm l2) :
    (writtenIxs sd l1).Perm (writtenIxs sd l2) :=
  perm_collect (g := fun p => writtenIxs sd [p]) (fun ⟨_, _⟩ _ => by simp only [writtenIxs, List.append_nil]) hp

section
variable (G : Val → Val) (P : Params) (S : Schema) (total fuel : Nat) (sd : SDesc)

/-- one field of the message applied to the destination's field values -/
def stepV (p : Nat × TVal) (vs : List Val) : Outcome (List Val) :=
  match lookupKnown sd p.1 p.2.tag with
  | none => if skipNeed p.2 > P.skipDepth then .err .depth else .ok vs
  | some (ix, f) => (readField P S total fuel f p.2 0 (vs.getD ix default)).mapv (fun x => vs.set ix (G x))

/-- the field loop as far as the destination's field values go -/
def fsRun : List (Nat × TVal) → List Val → Outcome (List Val)
  | [], vs => .ok vs
  | p :: r, vs => (stepV G P S total fuel sd p vs).bind (fsRun r)

variable {G P S total fuel sd}

theorem stepV_ok {p : Nat × TVal} {vs vs1 : List Val} (h : stepV G P S total fuel sd p vs = .ok vs1) :
    (lookupKnown sd p.1 p.2.tag = none ∧ vs1 = vs) ∨
    ∃ ix f x, lookupKnown sd p.1 p.2.tag = some (ix, f) ∧
      readField P S total fuel f p.2 0 (vs.getD ix default) = .ok x ∧ vs1 = vs.set ix (G x) := by
  unfold stepV at h
  cases hk : lookupKnown sd p.1 p.2.tag with
  | none =>
    rw [hk] at h
    exact .inl ⟨rfl, (Outcome.ok.inj (Outcome.ok_of_ite h nofun).2).symm⟩
  | some q =>
    obtain ⟨ix, f⟩ := q
    rw [hk] at h
    obtain ⟨x, hx, e⟩ := Outcome.mapv_eq_ok.1 h
    exact .inr ⟨ix, f, x, rfl, hx, e⟩

theorem stepV_skip {p : Nat × TVal} {vs vs1 : List Val} (h : stepV G P S total fuel sd p vs = .ok vs1)
    (hk : lookupKnown sd p.1 p.2.tag = none) (ws : List Val) : stepV G P S total fuel sd p ws = .ok ws := by
  unfold stepV at h ⊢
  rw [hk] at h ⊢
  exact if_neg (Outcome.ok_of_ite h nofun).1

theorem stepV_write {p : Nat × TVal} {ws : List Val} {ix : Nat} {f : Field} {x : Val}
    (hk : lookupKnown sd p.1 p.2.tag = some (ix, f))
    (hx : readField P S total fuel f p.2 0 (ws.getD ix default) = .ok x) :
    stepV G P S total fuel sd p ws = .ok (ws.set ix (G x)) := by
  unfold stepV
  rw [hk]
  dsimp only
  rw [hx]
  rfl

theorem getD_set_ne (vs : List Val) {i j : Nat} (h : i ≠ j) (x : Val) :
    (vs.set i x).getD j default = vs.getD j default := by
  simp only [List.getD_eq_getElem?_getD, List.getElem?_set_ne h]

theorem stepV_swap (a b : Nat × TVal) (vs vs2 : List Val)
    (hd : ∀ ia fa ib fb, lookupKnown sd a.1 a.2.tag = some (ia, fa) →
      lookupKnown sd b.1 b.2.tag = some (ib, fb) → ia ≠ ib)
    (h : fsRun G P S total fuel sd [a, b] vs = .ok vs2) :
    fsRun G P S total fuel sd [b, a] vs = .ok vs2 := by
  obtain ⟨v1, ha, h⟩ := Outcome.bind_eq_ok.1 h
  obtain ⟨v2, hb, h⟩ := Outcome.bind_eq_ok.1 h
  obtain rfl : v2 = vs2 := Outcome.ok.inj h
  refine Outcome.bind_eq_ok.2 ?_
  rcases stepV_ok ha with ⟨ka, rfl⟩ | ⟨ia, fa, x, ka, hx, rfl⟩
  · exact ⟨v2, hb, Outcome.bind_eq_ok.2 ⟨v2, stepV_skip ha ka v2, rfl⟩⟩
  · rcases stepV_ok hb with ⟨kb, rfl⟩ | ⟨ib, fb, y, kb, hy, rfl⟩
    · exact ⟨vs, stepV_skip hb kb vs, Outcome.bind_eq_ok.2 ⟨_, ha, rfl⟩⟩
    · have hne : ia ≠ ib := hd ia fa ib fb ka kb
      rw [getD_set_ne vs hne] at hy
      exact ⟨_, stepV_write kb hy, Outcome.bind_eq_ok.2 ⟨_, stepV_write ka (by rwa [getD_set_ne vs (Ne.symm hne)]),
        congrArg Outcome.ok (List.set_comm _ _ (Ne.symm hne))⟩⟩

theorem fsRun_append (l1 l2 : List (Nat × TVal)) (vs : List Val) :
    fsRun G P S total fuel sd (l1 ++ l2) vs =
      (fsRun G P S total fuel sd l1 vs).bind (fsRun G P S total fuel sd l2) := by
  induction l1 generalizing vs with
  | nil => rfl
  | cons p r ih =>
    simp only [List.cons_append, fsRun]
    cases stepV G P S total fuel sd p vs with
    | ok v => exact ih v
    | err _ | panic _ => rfl

variable (G P S total fuel sd)

theorem fsRun_perm {l1 l2 : List (Nat × TVal)} (hp : l1.Perm l2) :
    (writtenIxs sd l1).Nodup → ∀ vs vs', fsRun G P S total fuel sd l1 vs = .ok vs' →
      fsRun G P S total fuel sd l2 vs = .ok vs' := by
  induction hp with
  | nil => exact fun _ _ _ h => h
  | cons x _ ih =>
    intro hnd vs vs' h
    obtain ⟨v1, hx, h⟩ := Outcome.bind_eq_ok.1 h
    exact Outcome.bind_eq_ok.2 ⟨v1, hx, ih (List.nodup_append.1 hnd).2.1 v1 vs' h⟩
  | swap x y l =>
    intro hnd vs vs' h
    rw [show y :: x :: l = [y, x] ++ l from rfl, fsRun_append] at h
    rw [show x :: y :: l = [x, y] ++ l from rfl, fsRun_append]
    obtain ⟨v2, hyx, h⟩ := Outcome.bind_eq_ok.1 h
    have hd : ∀ ia fa ib fb, lookupKnown sd y.1 y.2.tag = some (ia, fa) →
        lookupKnown sd x.1 x.2.tag = some (ib, fb) → ia ≠ ib := by
      intro ia fa ib fb h1 h2 he
      subst he
      simp [writtenIxs, h1, h2] at hnd
    rw [stepV_swap y x vs v2 hd hyx]
    exact h
  | trans hp1 hp2 ih1 ih2 =>
    exact fun hnd vs vs' h => ih2 ((writtenIxs_perm sd hp1).nodup_iff.1 hnd) vs vs' (ih1 hnd vs vs' h)
end

theorem knownIds_perm (sd : SDesc) {l1 l2 : List (Nat × TVal)} (hp : l1.Perm l2) :
    (knownIds sd l1).Perm (knownIds sd l2) :=
  perm_collect (g := fun p => knownIds sd [p]) (fun ⟨_, _⟩ _ => by simp only [knownIds, List.append_nil]) hp

theorem firstMissing_congr (fields : List Field) (s1 s2 : List Nat) (h : ∀ i, i ∈ s1 ↔ i ∈ s2) :
    firstMissing fields s1 = firstMissing fields s2 := by
  induction fields with
  | nil => rfl
  | cons f r ih =>
    simp only [firstMissing]
    have : s1.contains f.id = s2.contains f.id := by
      cases h1 : s1.contains f.id <;> cases h2 : s2.contains f.id <;> simp_all
    rw [this, ih]

theorem serFields_length_perm {l1 l2 : List (Nat × TVal)} (hp : l1.Perm l2) :
    (serFields l1).length = (serFields l2).length :=
  (perm_collect (g := fun p => serFields [p]) (fun ⟨_, _⟩ _ => by simp only [serFields, List.append_nil]) hp).length_eq

theorem wfFields_perm {l1 l2 : List (Nat × TVal)} (hp : l1.Perm l2) : wfFields l1 = wfFields l2 := by
  induction hp with
  | nil => rfl
  | cons x _ ih => obtain ⟨i, v⟩ := x; simp only [wfFields, ih]
  | swap x y l =>
    obtain ⟨i, v⟩ := x; obtain ⟨j, w⟩ := y
    simp only [wfFields]
    cases decide (i < 65536) <;> cases decide (j < 65536) <;> cases wf v <;> cases wf w <;> simp
  | trans _ _ ih1 ih2 => exact ih1.trans ih2

/-- the field values of a struct value (nothing for any other value) -/
def Val.fieldsOf : Val → List Val
  | .st fs _ => fs
  | _ => []

section
variable {G : Val → Val} {P : Params} {S : Schema} {fuel : Nat} {sd : SDesc} (hG : FieldG G P S fuel sd)
include hG

theorem FieldG.readFields_fs (total total' : Nat) : ∀ (fs : List (Nat × TVal)) (tail : Nat) (st : LoopSt),
    (readFields P S total fuel sd fs tail st).mapv (fun s => s.fs.map G) =
      fsRun G P S total' fuel sd fs (st.fs.map G)
  | [], tail, st => by rw [readFields_nil]; rfl
  | (id, v) :: r, tail, st => by
    unfold fsRun stepV
    cases hk : lookupKnown sd id v.tag with
    | none =>
      rw [readFields_unknown P S total hk]
      by_cases hsk : skipNeed v > P.skipDepth
      · rw [if_pos hsk, if_pos hsk]; rfl
      · rw [if_neg hsk, if_neg hsk, FieldG.readFields_fs total total' r tail _]
        cases sd.hasHolder <;> rfl
    | some p =>
      obtain ⟨ix, f⟩ := p
      have hslot : G (st.fs.getD ix default) = G ((st.fs.map G).getD ix default) := by
        rw [hG.getD, hG.idem]
      rw [readFields_known P S total hk, Outcome.mapv_bind, Outcome.bind_mapv]
      refine Outcome.bind_congr_mapv (hG.field total total' f v ((serFields r).length + tail) 0 _ _
        (lookupKnown_mem sd id v.tag ix f hk) hslot) fun x y e => ?_
      rw [FieldG.readFields_fs total total' r tail _, List.map_set, e]

theorem FieldG.readFields_perm (total total' : Nat) {l1 l2 : List (Nat × TVal)} (hp : l1.Perm l2)
    (hnd : (writtenIxs sd l1).Nodup) (tail tail' : Nat) (st st1 : LoopSt)
    (h : readFields P S total fuel sd l1 tail st = .ok st1) :
    ∃ st2, readFields P S total' fuel sd l2 tail' st = .ok st2 ∧ st2.fs.map G = st1.fs.map G ∧
      (∀ i, i ∈ st2.seen ↔ i ∈ st1.seen) := by
  have h1 := hG.readFields_fs total total l1 tail st
  rw [h] at h1
  have h2 := fsRun_perm G P S total fuel sd hp hnd _ _ h1.symm
  have h3 := hG.readFields_fs total' total l2 tail' st
  rw [h2] at h3
  obtain ⟨st2, h4, h5⟩ := Outcome.mapv_eq_ok.1 h3
  refine ⟨st2, h4, h5.symm, fun i => ?_⟩
  rw [(readFields_spec P S total fuel sd l1 tail st st1 h).2.1,
    (readFields_spec P S total' fuel sd l2 tail' st st2 h4).2.1, (knownIds_perm sd hp).mem_iff]
end

/-- C03, field order, for the reference reader -/
theorem readMessage_perm {G : Val → Val} (P : Params) (S : Schema) (sid : Nat)
    (hG : ∀ fuel, FieldG G P S fuel (S.get sid))
    {l1 l2 : List (Nat × TVal)} (hp : l1.Perm l2) (hnd : (writtenIxs (S.get sid) l1).Nodup)
    (tr tr' : Nat) (dest w : Val) (h : readMessage P S sid l1 tr dest = .ok w) :
    ∃ w', readMessage P S sid l2 tr' dest = .ok w' ∧ w'.fieldsOf.map G = w.fieldsOf.map G := by
  unfold readMessage at h ⊢
  cases hm : P.maxDepth with
  | zero => rw [hm, readStruct_zero] at h; cases h
  | succ f =>
    rw [hm] at h
    by_cases hd : ∃ vs hh, dest = .st vs hh
    · obtain ⟨vs, hh, rfl⟩ := hd
      rw [readStruct_st] at h ⊢
      obtain ⟨st1, hl, h⟩ := Outcome.bind_eq_ok.1 h
      obtain ⟨st2, h2, e1, e2⟩ :=
        (hG f).readFields_perm _ ((ser (.strct l2)).length + tr') hp hnd (tr + 1) (tr' + 1) _ st1 hl
      rw [h2]
      simp only [Outcome.bind, firstMissing_congr _ _ _ e2]
      cases hfm : firstMissing (S.get sid).fields st1.seen with
      | some g => rw [hfm] at h; cases h
      | none =>
        rw [hfm] at h
        cases h
        exact ⟨_, rfl, e1⟩
    · rw [readStruct_nonst P S _ f sid l1 tr dest (fun vs hh e => hd ⟨vs, hh, e⟩)] at h
      cases h

/-- … and for the decoder: the permuted message has the same length -/
theorem decodeM_perm {G : Val → Val} {P : Params} (hP : P.valid = true) (S : Schema) (hSok : S.ok = true)
    (sid : Nat) (hG : ∀ fuel, FieldG G P S fuel (S.get sid))
    {l1 l2 : List (Nat × TVal)} (hp : l1.Perm l2) (hnd : (writtenIxs (S.get sid) l1).Nodup)
    (hw : wfFields l1 = true) (tr tr' : Bytes) (dest w : Val) (n : Nat)
    (h : decodeM P S sid (ser (.strct l1) ++ tr) dest = .ok (w, n)) :
    ∃ w', decodeM P S sid (ser (.strct l2) ++ tr') dest = .ok (w', n) ∧ w'.fieldsOf.map G = w.fieldsOf.map G := by
  obtain ⟨h0, rfl⟩ := decodeM_accepted hP S hSok sid l1 tr dest hw h
  obtain ⟨w', h', ef⟩ := readMessage_perm P S sid hG hp hnd tr.length tr'.length dest w h0
  refine ⟨w', ?_, ef⟩
  rw [decodeM_refines hP S hSok sid l2 tr' _ (by rw [← wfFields_perm hp]; exact hw), h']
  simp only [Outcome.mapv, ser, List.length_append, serFields_length_perm hp]

end Frugal
