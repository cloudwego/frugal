/- A view is not a value of `hasTy`, the string it shows is: the induction (`reader_typedE`) is about the
   result with its views erased, for every schema.  Without `nocopy` fields nothing is a view
   (`reader_plain`), `erase` does nothing, and the statements without `erase` follow. -/
import Frugal.Proofs.ReadHelpers
import Frugal.Proofs.Erase
import Frugal.Proofs.ViewsLemmas
import Frugal.Proofs.ReaderPlain
namespace Frugal

theorem sext32to64_lt (n : Nat) (h : n < 4294967296) : sext32to64 n < 18446744073709551616 := by
  unfold sext32to64; split <;> omega

theorem readFixed_typed (S : Schema) (k : Kind) (tv : TVal) (w : Val)
    (hw : wf tv = true) (h : readFixed k.tt tv = .ok w) :
    hasTy S (.base k) w = true := by
  cases tv with
  | bool n =>
    -- whatever byte was sent, `b == 1` is stored
    cases k <;> cases h
    refine decide_eq_true ?_
    split <;> omega
  | i8 n | double n | i16 n | i64 n =>
    -- the read fails in every kind but the one that accepts this width, whose range is the width
    simp only [wf, decide_eq_true_eq] at hw
    cases k <;> cases h
    simp only [hasTy, Kind.bits]
    exact decide_eq_true (by omega)
  | i32 n =>
    simp only [wf, decide_eq_true_eq] at hw
    cases k <;> cases h
    · simp only [hasTy, Kind.bits]
      exact decide_eq_true (by omega)
    · -- an enum is the 32 bits sign-extended
      exact decide_eq_true (sext32to64_lt n hw)
  | _ => cases h

theorem wrapPtr_typed (S : Schema) (t : Ty) (w : Val) (hok : t.ok = true) (h : hasTy S t.deref w = true) :
    hasTy S t (wrapPtr t w) = true := by
  cases t with
  | ptr e =>
    have : e.isPtr = false := by cases e <;> simp [Ty.ok, Ty.isPtr] at hok ⊢
    have hp : (Ty.ptr e).isPtr = true := rfl
    simp only [wrapPtr, hp, ↓reduceIte, hasTy, this, Ty.deref, Bool.not_false, Bool.true_and] at h ⊢
    exact h
  | _ => exact h

theorem freshTarget_typed (S : Schema) (t : Ty) (slot : Val)
    (hz : hasTy S t.deref (zeroVal S S.length t.deref) = true) (h : hasTy S t slot = true) :
    hasTy S t.deref (freshTarget S t slot) = true := by
  cases t with
  | ptr e => exact hz
  | _ => exact h

theorem hasTyFields_at (S : Schema) : ∀ (fs : List Field) (vs : List Val) (ix : Nat) (f : Field),
    fs[ix]? = some f → hasTyFields S fs vs = true →
    hasTy S f.ty (vs.getD ix default) = true ∧
      ∀ x, hasTy S f.ty x = true → hasTyFields S fs (vs.set ix x) = true
  | [], _, _, _, hf, _ => by simp at hf
  | _ :: _, [], _, _, _, h => by simp [hasTyFields] at h
  | g :: fr, v :: vr, 0, f, hf, h => by
    simp only [List.getElem?_cons_zero, Option.some.injEq] at hf
    subst hf
    simp only [hasTyFields, Bool.and_eq_true] at h
    exact ⟨by simpa using h.1, fun x hx => by simp [hasTyFields, hx, h.2]⟩
  | g :: fr, v :: vr, ix + 1, f, hf, h => by
    simp only [hasTyFields, Bool.and_eq_true] at h
    have ih := hasTyFields_at S fr vr ix f hf h.2
    exact ⟨by simpa using ih.1, fun x hx => by simp [hasTyFields, h.1, ih.2 x hx]⟩

theorem erase_freshTarget (S : Schema) (t : Ty) (slot : Val) :
    erase (freshTarget S t slot) = freshTarget S t (erase slot) := by
  unfold freshTarget
  split
  · exact erase_zeroVal S _ _
  · rfl

theorem readStr_typedE (S : Schema) (isBin nc : Bool) (total tail : Nat) (tv : TVal) (w : Val)
    (h : readStr isBin nc total tail tv = .ok w) :
    hasTy S (.base (if isBin then .binary else .string)) (erase w) = true := by
  obtain ⟨s, _, hs⟩ := readStr_ok h
  rcases hs with rfl | ⟨_, _, rfl⟩ <;> cases isBin <;> rfl

theorem hasTyEntries_keys_notView (S : Schema) (kt vt : Ty) : ∀ (es : List (Val × Val)),
    hasTyEntries S kt vt es = true → ∀ p ∈ es, notView p.1 = true
  | [], _, _, hp => by cases hp
  | (a, b) :: r, h, p, hp => by
    simp only [hasTyEntries, Bool.and_eq_true] at h
    rcases List.mem_cons.1 hp with rfl | hp
    · exact plain_notView (hasTy_plain S a kt h.1.1)
    · exact hasTyEntries_keys_notView S kt vt r h.2 p hp

section
variable (P : Params) (S : Schema) (total : Nat) (hS : S.ok = true)
variable (hdt : ∀ sid, ∀ f ∈ (S.get sid).fields, f.assigned = true → ∀ d, f.dflt = some d →
  hasTy S f.ty d = true)
variable (hz : ∀ sid, hasTy S (.strct sid) (zeroVal S S.length (.strct sid)) = true)
include hS hdt hz

omit hS hz in
theorem defaults_plain : ∀ sid, ∀ f ∈ (S.get sid).fields, f.assigned = true → ∀ d, f.dflt = some d →
    plain d = true :=
  fun sid f hf ha d hd => hasTy_plain S d f.ty (hdt sid f hf ha d hd)

theorem reader_typedE :
    (∀ {fuel t tv tail dest w}, readVal P S total fuel t tv tail dest = .ok w →
      t.ok = true → t.isPtr = false → wf tv = true → hasTy S t (erase dest) = true →
      hasTy S t (erase w) = true) ∧
    (∀ {fuel sid fs tail dest w}, readStruct P S total fuel sid fs tail dest = .ok w →
      wfFields fs = true → hasTy S (.strct sid) (erase dest) = true → hasTy S (.strct sid) (erase w) = true) ∧
    (∀ {fuel sd fs tail st st'}, readFields P S total fuel sd fs tail st = .ok st' →
      ∀ sid, sd = S.get sid → wfFields fs = true → hasTyFields S sd.fields (eraseList st.fs) = true →
      hasTyFields S sd.fields (eraseList st'.fs) = true) ∧
    (∀ {fuel t x tail slot w}, readSlot P S total fuel t x tail slot = .ok w →
      t.ok = true → wf x = true → hasTy S t (erase slot) = true → hasTy S t (erase w) = true) ∧
    (∀ {fuel et xs tail vs}, readList P S total fuel et xs tail = .ok vs →
      ∀ a, et.ok = true → wfList a xs = true → hasTyList S et (eraseList vs) = true) ∧
    (∀ {fuel kt vt es tail acc res}, readEntries P S total fuel kt vt es tail acc = .ok res →
      ∀ a b, kt.ok = true → vt.ok = true → wfEntries a b es = true →
      hasTyEntries S kt vt (eraseEntries acc) = true → (∀ p ∈ acc, notView p.1 = true) →
      hasTyEntries S kt vt (eraseEntries res) = true ∧ (∀ p ∈ res, notView p.1 = true)) := by
  have hzero (t : Ty) : hasTy S t (erase (zeroVal S S.length t)) = true := by
    rw [erase_zeroVal]; exact zeroVal_hasTy S hz t
  apply reader_induction
  case fixed =>
    refine fun hfx h hok hnp hw _ => ?_
    obtain ⟨k, hdk, _⟩ := fixed_deref_base _ hok hfx
    rw [deref_nonptr hnp] at hdk; subst hdk
    rw [(readFixed_erase _ _ _ h).1]
    exact readFixed_typed S k _ _ hw h
  case str =>
    refine @fun _ k _ _ _ _ hk h _ _ _ _ => ?_
    have := readStr_typedE S (k == .binary) false _ _ _ _ h
    cases k <;> simp [Kind.tt] at hk <;> simpa using this
  case map =>
    refine fun _ ih hok _ hw _ => ?_
    simp only [wf, Bool.and_eq_true] at hw
    exact (ih _ _ (Ty.ok_map hok).1.1 (Ty.ok_map hok).2.1 hw.2 rfl nofun).1
  case list | set =>
    refine fun _ ih hok _ hw _ => ?_
    simp only [wf, Bool.and_eq_true] at hw
    exact ih _ (Ty.ok_list hok).1 hw.2
  case structVal =>
    refine fun _ ih _ _ hw hd => ih hw ?_
    rw [erase_initDest S _ _ (defaults_plain S hdt _)]
    exact initDest_hasTy S _ _ (hdt _) hd
  case struct =>
    -- the holder is replaced only in a struct that declares one
    refine fun _ _ ih hw hd => ?_
    simp only [erase, hasTy, Bool.and_eq_true] at hd ⊢
    refine ⟨?_, ih _ rfl hw hd.2⟩
    split
    · rename_i hb; simp [hb.1]
    · exact hd.1
  case fieldsNil => exact fun _ _ _ hs => hs
  case fieldsUnknown =>
    refine fun _ _ _ ih sid hsd hw hs => ?_
    simp only [wfFields, Bool.and_eq_true] at hw
    exact ih sid hsd hw.2 hs
  case fieldsView =>
    -- the view of a string field shows a string
    refine @fun _ _ _ _ _ _ _ _ f _ _ hk _ hnc hv _ ih sid hsd hw hs => ?_
    subst hsd
    simp only [wfFields, Bool.and_eq_true] at hw
    have hf := sd_fields_ok hS sid f (lookupKnown_mem _ _ _ _ _ hk)
    refine ih sid rfl hw.2 ?_
    rw [eraseList_set, erase_wrapPtr]
    refine (hasTyFields_at S _ _ _ _ (lookupKnown_getElem _ _ _ _ _ hk).1 hs).2 _
      (wrapPtr_typed S _ _ (Field.ok_ty hf) ?_)
    have := readStr_typedE S _ _ _ _ _ _ hv
    rcases tt_string_deref f.ty (Field.ok_ty hf) (Field.nocopy_string hf hnc) with e | e <;>
      (rw [e] at this ⊢; exact this)
  case fieldsKnown =>
    refine @fun _ _ _ _ _ _ _ _ f _ _ hk _ _ ihx _ ih sid hsd hw hs => ?_
    subst hsd
    simp only [wfFields, Bool.and_eq_true] at hw
    have hfix := (lookupKnown_getElem _ _ _ _ _ hk).1
    have hfok := Field.ok_ty (sd_fields_ok hS sid f (lookupKnown_mem _ _ _ _ _ hk))
    obtain ⟨hslot, hset⟩ := hasTyFields_at S _ _ _ _ hfix hs
    rw [eraseList_getD] at hslot
    refine ih sid rfl hw.2 ?_
    rw [eraseList_set]
    exact hset _ (ihx hfok hw.1.2 hslot)
  case slotFixed =>
    refine fun hfx h hok hw _ => ?_
    obtain ⟨k, hdk, htk⟩ := fixed_deref_base _ hok hfx
    rw [erase_wrapPtr, (readFixed_erase _ _ _ h).1]
    refine wrapPtr_typed S _ _ hok ?_
    rw [hdk]
    rw [htk] at h
    exact readFixed_typed S k _ _ hw h
  case slotVal =>
    refine fun _ _ ih hok hw hs => ?_
    have hd := deref_ok _ hok
    rw [erase_wrapPtr]
    refine wrapPtr_typed S _ _ hok (ih hd.1 hd.2 hw ?_)
    rw [erase_freshTarget]
    exact freshTarget_typed S _ _ (zeroVal_hasTy S hz _) hs
  case listNil => exact fun _ _ _ => rfl
  case listCons =>
    refine fun _ ihx _ ih a hok hw => ?_
    simp only [wfList, Bool.and_eq_true] at hw
    simp only [eraseList, hasTyList, Bool.and_eq_true]
    exact ⟨ihx hok hw.1.2 (hzero _), ih a hok hw.2⟩
  case entriesNil => exact fun _ _ _ _ _ ha hnv => ⟨ha, hnv⟩
  case entriesCons =>
    refine fun hkx ihk _ ihv _ ih a b hk hv hw ha hnv => ?_
    simp only [wfEntries, Bool.and_eq_true] at hw
    have nk := readSlot_notView P S total _ _ _ _ _ _ hkx
    refine ih a b hk hv hw.2 ?_ (mapInsert_keys_notView _ _ _ _ hnv nk)
    rw [mapInsert_erase _ _ _ _ hnv nk]
    exact mapInsert_cases _ rfl (fun _ _ _ => rfl) _ _ _ ha (ihk hk hw.1.1.2 (hzero _))
      (ihv hv hw.1.2 (hzero _))
end

section
variable (P : Params) (S : Schema) (total : Nat) (hS : S.ok = true)
variable (hdt : ∀ sid, ∀ f ∈ (S.get sid).fields, ∀ d, f.dflt = some d → hasTy S f.ty d = true)
variable (hz : ∀ sid, hasTy S (.strct sid) (zeroVal S S.length (.strct sid)) = true)
include hS hdt hz

theorem readVal_typedE : ∀ (tv : TVal) (fuel : Nat) (t : Ty) (tail : Nat) (dest w : Val),
    t.ok = true → t.isPtr = false → wf tv = true → hasTy S t (erase dest) = true →
    readVal P S total fuel t tv tail dest = .ok w → hasTy S t (erase w) = true :=
  fun _ _ _ _ _ _ hok hnp hw hd h =>
    (reader_typedE P S total hS (fun sid f hf _ => hdt sid f hf) hz).1 h hok hnp hw hd

theorem readList_typedE : ∀ (xs : List TVal) (fuel : Nat) (et : Ty) (tail : Nat) (vs : List Val) (a : Nat),
    et.ok = true → wfList a xs = true →
    readList P S total fuel et xs tail = .ok vs → hasTyList S et (eraseList vs) = true :=
  fun _ _ _ _ _ a hok hw h =>
    (reader_typedE P S total hS (fun sid f hf _ => hdt sid f hf) hz).2.2.2.2.1 h a hok hw

theorem readEntries_typedE : ∀ (es : List (TVal × TVal)) (fuel : Nat) (kt vt : Ty) (tail : Nat)
    (acc res : List (Val × Val)) (a b : Nat), kt.ok = true → vt.ok = true →
    wfEntries a b es = true → hasTyEntries S kt vt (eraseEntries acc) = true →
    (∀ p ∈ acc, notView p.1 = true) →
    readEntries P S total fuel kt vt es tail acc = .ok res →
    hasTyEntries S kt vt (eraseEntries res) = true ∧ (∀ p ∈ res, notView p.1 = true) :=
  fun _ _ _ _ _ _ _ a b hk hv hw ha hnv h =>
    (reader_typedE P S total hS (fun sid f hf _ => hdt sid f hf) hz).2.2.2.2.2 h a b hk hv hw ha hnv

theorem readSlot_typedE : ∀ (x : TVal) (fuel : Nat) (t : Ty) (tail : Nat) (w : Val),
    t.ok = true → wf x = true →
    readSlot P S total fuel t x tail (zeroVal S S.length t) = .ok w →
    hasTy S t (erase w) = true ∧ notView w = true :=
  fun x fuel t tail w hok hw h =>
    ⟨(reader_typedE P S total hS (fun sid f hf _ => hdt sid f hf) hz).2.2.2.1 h hok hw
        (by rw [erase_zeroVal]; exact zeroVal_hasTy S hz t),
      readSlot_notView P S total fuel t x tail _ w h⟩

omit total in
theorem readMessage_typedE (sid : Nat) (fs : List (Nat × TVal)) (trailing : Nat) (dest w : Val)
    (hw : wfFields fs = true) (hd : hasTy S (.strct sid) (erase dest) = true)
    (h : readMessage P S sid fs trailing dest = .ok w) : hasTy S (.strct sid) (erase w) = true :=
  (reader_typedE P S _ hS (fun sid f hf _ => hdt sid f hf) hz).2.1 h hw hd
end

section
variable (P : Params) (S : Schema) (total : Nat) (hS : S.ok = true) (hside : S.rtSide)
include hS hside

theorem readVal_typed : ∀ (tv : TVal) (fuel : Nat) (t : Ty) (tail : Nat) (dest w : Val),
    t.ok = true → t.isPtr = false → wf tv = true → hasTy S t dest = true →
    readVal P S total fuel t tv tail dest = .ok w → hasTy S t w = true := by
  intro _ _ _ _ dest w hok hnp hw hd h
  have hpd := hasTy_plain S dest _ hd
  have hpw := (reader_plain P S total hside.noNocopy (defaults_plain S hside.defaultsTyped)).1 h hpd
  have := (reader_typedE P S total hS hside.defaultsTyped hside.zeroOk).1 h hok hnp hw
  rw [erase_plain dest hpd, erase_plain w hpw] at this
  exact this hd

theorem readList_typed : ∀ (xs : List TVal) (fuel : Nat) (et : Ty) (tail : Nat) (vs : List Val) (a : Nat),
    et.ok = true → wfList a xs = true →
    readList P S total fuel et xs tail = .ok vs → hasTyList S et vs = true := by
  intro _ _ _ _ vs a hok hw h
  have hpv := (reader_plain P S total hside.noNocopy (defaults_plain S hside.defaultsTyped)).2.2.2.2.1 h
  have := (reader_typedE P S total hS hside.defaultsTyped hside.zeroOk).2.2.2.2.1 h a hok hw
  rwa [eraseList_plain _ hpv] at this

theorem readEntries_typed : ∀ (es : List (TVal × TVal)) (fuel : Nat) (kt vt : Ty) (tail : Nat)
    (acc res : List (Val × Val)) (a b : Nat), kt.ok = true → vt.ok = true →
    wfEntries a b es = true → hasTyEntries S kt vt acc = true →
    readEntries P S total fuel kt vt es tail acc = .ok res → hasTyEntries S kt vt res = true := by
  intro _ _ kt vt _ acc res a b hk hv hw ha h
  have hpa := hasTyEntries_plain S acc kt vt ha
  have hpr := (reader_plain P S total hside.noNocopy (defaults_plain S hside.defaultsTyped)).2.2.2.2.2 h hpa
  have := (reader_typedE P S total hS hside.defaultsTyped hside.zeroOk).2.2.2.2.2 h a b hk hv hw
  rw [eraseEntries_plain _ hpa, eraseEntries_plain _ hpr] at this
  exact (this ha (hasTyEntries_keys_notView S kt vt acc ha)).1

theorem readSlot_typed : ∀ (x : TVal) (fuel : Nat) (t : Ty) (tail : Nat) (slot w : Val),
    t.ok = true → wf x = true → hasTy S t slot = true →
    readSlot P S total fuel t x tail slot = .ok w → hasTy S t w = true := by
  intro _ _ _ _ slot w hok hw hs h
  have hps := hasTy_plain S slot _ hs
  have hpw := (reader_plain P S total hside.noNocopy (defaults_plain S hside.defaultsTyped)).2.2.2.1 h hps
  have := (reader_typedE P S total hS hside.defaultsTyped hside.zeroOk).2.2.2.1 h hok hw
  rw [erase_plain slot hps, erase_plain w hpw] at this
  exact this hs

omit total in
theorem readMessage_typed (sid : Nat) (fs : List (Nat × TVal)) (trailing : Nat) (dest w : Val)
    (hw : wfFields fs = true) (hd : hasTy S (.strct sid) dest = true)
    (h : readMessage P S sid fs trailing dest = .ok w) : hasTy S (.strct sid) w = true := by
  have hpd := hasTy_plain S dest _ hd
  have hpw := (reader_plain P S _ hside.noNocopy (defaults_plain S hside.defaultsTyped)).2.1 h hpd
  have := (reader_typedE P S _ hS hside.defaultsTyped hside.zeroOk).2.1 h hw
  rw [erase_plain dest hpd, erase_plain w hpw] at this
  exact this hd
end
end Frugal
