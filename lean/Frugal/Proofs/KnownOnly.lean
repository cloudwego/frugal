/-
  Statements about the field values of a struct are made once, under a `G : Val → Val` that reading a
  field respects (`FieldG`): the identity for schemas without `nocopy` fields, `erase` for every schema.
-/
import Frugal.Proofs.TailIndep
namespace Frugal

/-- all that the statements under `G` ask of the reader: a field of `sd` read anywhere in the buffer, into
    slots equal under `G`, gives outcomes equal under `G` -/
structure FieldG (G : Val → Val) (P : Params) (S : Schema) (fuel : Nat) (sd : SDesc) : Prop where
  dflt : G default = default
  idem : ∀ x, G (G x) = G x
  field : ∀ (total total' : Nat) (f : Field) (v : TVal) (tail tail' : Nat) (slot slot' : Val), f ∈ sd.fields →
    G slot = G slot' →
    (readField P S total fuel f v tail slot).mapv G = (readField P S total' fuel f v tail' slot').mapv G

theorem FieldG.exact (P : Params) (S : Schema) (fuel : Nat) (sd : SDesc)
    (hS : ∀ sid, ∀ f ∈ (S.get sid).fields, f.nocopy = false) (hsd : ∀ g ∈ sd.fields, g.nocopy = false) :
    FieldG id P S fuel sd where
  dflt := rfl
  idem _ := rfl
  field total total' f v tail tail' slot slot' hf hs := by
    cases (show slot = slot' from hs)
    rw [(valTail P S total total' hS fuel).1.readField f v tail tail' slot (hsd f hf)]

theorem FieldG.getD {G : Val → Val} {P : Params} {S : Schema} {fuel : Nat} {sd : SDesc} (hG : FieldG G P S fuel sd)
    (vs : List Val) (ix : Nat) : (vs.map G).getD ix default = G (vs.getD ix default) := by
  rw [List.getD_eq_getElem?_getD, List.getD_eq_getElem?_getD, List.getElem?_map, ← Option.getD_map G, hG.dflt]

/-- C11, the recognised fields as if alone -/
theorem FieldG.readFields_knownOnly {G : Val → Val} {P : Params} {S : Schema} {fuel : Nat} {sd : SDesc}
    (hG : FieldG G P S fuel sd) (total total' : Nat) :
    ∀ (fs : List (Nat × TVal)) (tail tail' : Nat) (st1 st2 st' : LoopSt),
      st1.fs.map G = st2.fs.map G → st1.seen = st2.seen →
      readFields P S total fuel sd fs tail st1 = .ok st' →
      ∃ st'', readFields P S total' fuel sd (knownOnly sd fs) tail' st2 = .ok st'' ∧
        st''.fs.map G = st'.fs.map G ∧ st''.seen = st'.seen ∧ st''.unk = st2.unk
  | [], tail, tail', st1, st2, st', h1, h2, h => by
    rw [readFields_nil] at h
    cases h
    exact ⟨st2, readFields_nil P S total' fuel sd tail' st2, h1.symm, h2.symm, rfl⟩
  | (id, v) :: r, tail, tail', st1, st2, st', h1, h2, h => by
    cases hk : lookupKnown sd id v.tag with
    | none =>
      have hko : knownOnly sd ((id, v) :: r) = knownOnly sd r := by simp [knownOnly, hk]
      rw [readFields_unknown P S total hk] at h
      rw [hko]
      obtain ⟨_, h⟩ := Outcome.ok_of_ite h nofun
      refine hG.readFields_knownOnly total total' r tail tail' _ st2 st' ?_ ?_ h
      · cases sd.hasHolder <;> exact h1
      · cases sd.hasHolder <;> exact h2
    | some p =>
      obtain ⟨ix, f⟩ := p
      have hko : knownOnly sd ((id, v) :: r) = (id, v) :: knownOnly sd r := by simp [knownOnly, hk]
      rw [readFields_known P S total hk] at h
      obtain ⟨x, hx, h⟩ := Outcome.bind_eq_ok.1 h
      have hslot : G (st1.fs.getD ix default) = G (st2.fs.getD ix default) := by
        rw [← hG.getD, ← hG.getD, h1]
      have hf := hG.field total total' f v ((serFields r).length + tail)
        ((serFields (knownOnly sd r)).length + tail') _ _ (lookupKnown_mem sd id v.tag ix f hk) hslot
      rw [hx] at hf
      obtain ⟨y, hy, e⟩ := Outcome.mapv_eq_ok.1 hf.symm
      rw [hko, readFields_known P S total' hk, hy]
      exact hG.readFields_knownOnly total total' r tail tail' _ _ st'
        (by simp only [List.map_set, h1, e]) (by simp only [h2]) h

end Frugal
