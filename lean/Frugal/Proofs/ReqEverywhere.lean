/- Contrapositive: a struct lacking a required field anywhere on a known path makes the decode fail. -/
import Frugal.Proofs.ReaderProps
import Frugal.Proofs.TypedInduct
namespace Frugal

/- every struct on a known path of `tv` (read at type `t`) has all its required fields -/
mutual
def reqOK (S : Schema) : Ty → TVal → Bool
  | .strct sid, .strct fs =>
      ((S.get sid).fields.all fun f => f.req != .required || (knownIds (S.get sid) fs).contains f.id) &&
      reqOKFields S (S.get sid) fs
  | .list _ e, .list _ xs => reqOKList S e.deref xs
  | .list _ e, .set _ xs => reqOKList S e.deref xs
  | .map k v, .map _ _ es => reqOKEntries S k.deref v.deref es
  | _, _ => true
def reqOKFields (S : Schema) (sd : SDesc) : List (Nat × TVal) → Bool
  | [] => true
  | (id, v) :: r =>
      (match lookupKnown sd id v.tag with
       | some (_, f) => reqOK S f.ty.deref v
       | none => true) && reqOKFields S sd r
def reqOKList (S : Schema) (e : Ty) : List TVal → Bool
  | [] => true
  | x :: r => reqOK S e x && reqOKList S e r
def reqOKEntries (S : Schema) (k v : Ty) : List (TVal × TVal) → Bool
  | [] => true
  | (a, b) :: r => reqOK S k a && reqOK S v b && reqOKEntries S k v r
end

theorem reqOK_of_tt (S : Schema) (t : Ty) (tv : TVal)
    (h : t.tt ≠ .strct ∧ t.tt ≠ .map ∧ t.tt ≠ .list ∧ t.tt ≠ .set) :
    reqOK S t tv = true ∧ reqOK S t.deref tv = true := by
  cases t with
  | base k => cases tv <;> exact ⟨rfl, rfl⟩
  | ptr e =>
    cases e with
    | base _ | ptr _ => cases tv <;> exact ⟨rfl, rfl⟩
    | strct s => exact absurd rfl h.1
    | list s e' => cases s <;> simp [Ty.tt] at h
    | map k v => exact absurd rfl h.2.1
  | strct s => exact absurd rfl h.1
  | list s e' => cases s <;> simp [Ty.tt] at h
  | map k v => exact absurd rfl h.2.1

theorem reqOK_of_fixed (S : Schema) (t : Ty) (tv : TVal) (h : specFixed t.tt > 0) :
    reqOK S t tv = true ∧ reqOK S t.deref tv = true := by
  apply reqOK_of_tt
  cases ht : t.tt <;> simp [ht, specFixed] at h ⊢

/-- a `nocopy` field is a string field: nothing to check below it -/
theorem reqOK_of_nocopy (S : Schema) {sd : SDesc} (hsd : sd.ok = true) {id tag ix : Nat} {f : Field}
    (hk : lookupKnown sd id tag = some (ix, f)) (hnc : f.nocopy = true) (tv : TVal) :
    reqOK S f.ty.deref tv = true := by
  simp only [SDesc.ok, List.all_eq_true] at hsd
  refine (reqOK_of_tt S f.ty tv ?_).2
  simp [Field.nocopy_string (hsd f (lookupKnown_mem _ _ _ _ _ hk)) hnc]

section
variable (P : Params) (S : Schema) (total : Nat) (hS : S.ok = true)
include hS

/-- the struct case is `firstMissing = none`; every other case passes the parts' verdicts on -/
theorem reader_reqOK :
    (∀ {fuel t tv tail dest w}, readVal P S total fuel t tv tail dest = .ok w → reqOK S t tv = true) ∧
    (∀ {fuel sid fs tail dest w}, readStruct P S total fuel sid fs tail dest = .ok w →
      reqOK S (.strct sid) (.strct fs) = true) ∧
    (∀ {fuel sd fs tail st st'}, readFields P S total fuel sd fs tail st = .ok st' →
      sd.ok = true → reqOKFields S sd fs = true) ∧
    (∀ {fuel t x tail slot w}, readSlot P S total fuel t x tail slot = .ok w → reqOK S t.deref x = true) ∧
    (∀ {fuel et xs tail vs}, readList P S total fuel et xs tail = .ok vs → reqOKList S et.deref xs = true) ∧
    (∀ {fuel kt vt es tail acc res}, readEntries P S total fuel kt vt es tail acc = .ok res →
      reqOKEntries S kt.deref vt.deref es = true) := by
  apply reader_induction
  case fixed => exact fun hfx _ => (reqOK_of_fixed S _ _ hfx).1
  case str => exact @fun _ _ tv _ _ _ _ _ => by cases tv <;> rfl
  case map | list | set | structVal => exact fun _ ih => ih
  case struct =>
    refine @fun fuel sid fs tail vs _ st hl hfm ih => ?_
    simp only [reqOK, Bool.and_eq_true, List.all_eq_true, Bool.or_eq_true, bne_iff_ne, ne_eq,
      List.contains_eq_mem, decide_eq_true_eq]
    refine ⟨fun g hg => ?_, ih (List.all_eq_true.2 (sd_fields_ok hS sid))⟩
    by_cases hr : g.req = .required
    · exact .inr ((seen_exact P S total fuel (S.get sid) fs (tail + 1) vs st hl g.id).1
        ((firstMissing_none_iff (S.get sid).fields st.seen).1 hfm g hg hr))
    · exact .inl hr
  case fieldsNil => exact fun _ => rfl
  case fieldsUnknown =>
    refine fun hk _ _ ih hsd => ?_
    simp only [reqOKFields, hk, ih hsd, Bool.and_self]
  case fieldsView =>
    refine fun hk _ hnc _ _ ih hsd => ?_
    simp only [reqOKFields, hk, ih hsd, reqOK_of_nocopy S hsd hk hnc, Bool.and_self]
  case fieldsKnown =>
    refine fun hk _ _ ihx _ ih hsd => ?_
    simp only [reqOKFields, hk, ihx, ih hsd, Bool.and_self]
  case slotFixed => exact fun hfx _ => (reqOK_of_fixed S _ _ hfx).2
  case slotVal => exact fun _ _ ih => ih
  case listNil | entriesNil => exact rfl
  case listCons =>
    refine fun _ ihx _ ih => ?_
    simp only [reqOKList, ihx, ih, Bool.and_self]
  case entriesCons =>
    refine fun _ ihk _ ihv _ ih => ?_
    simp only [reqOKEntries, ihk, ihv, ih, Bool.and_self]

theorem readList_reqOK : ∀ (xs : List TVal) (fuel : Nat) (et : Ty) (tail : Nat) (vs : List Val),
    readList P S total fuel et xs tail = .ok vs → reqOKList S et.deref xs = true :=
  fun _ _ _ _ _ h => (reader_reqOK P S total hS).2.2.2.2.1 h

theorem readEntries_reqOK : ∀ (es : List (TVal × TVal)) (fuel : Nat) (kt vt : Ty) (tail : Nat)
    (acc res : List (Val × Val)), readEntries P S total fuel kt vt es tail acc = .ok res →
    reqOKEntries S kt.deref vt.deref es = true :=
  fun _ _ _ _ _ _ _ h => (reader_reqOK P S total hS).2.2.2.2.2 h

theorem readMessage_reqOK (sid : Nat) (fs : List (Nat × TVal)) (trailing : Nat) (dest w : Val)
    (h : readMessage P S sid fs trailing dest = .ok w) : reqOK S (.strct sid) (.strct fs) = true :=
  (reader_reqOK P S _ hS).2.1 h

end
end Frugal
