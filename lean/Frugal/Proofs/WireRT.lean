import Frugal.Wire
import Frugal.Proofs.BigEndian
namespace Frugal

theorem rd8_u8_cons (n : Nat) (r : Bytes) (h : n < 256) : rd8 (u8 n :: r) = some (n, r) := rd8_u8 n r h

theorem codeOK_lt {n : Nat} (h : codeOK n = true) : n < 128 := of_decide_eq_true h

theorem tag_lt128 (v : TVal) : v.tag < 128 := by cases v <;> exact of_decide_eq_true rfl
theorem tag_lt (v : TVal) : v.tag < 256 := Nat.lt_trans (tag_lt128 v) (by decide)
theorem tag_pos (v : TVal) : v.tag ≠ 0 := by cases v <;> exact of_decide_eq_true rfl

theorem u8_tag_toNat (v : TVal) : (u8 v.tag).toNat = v.tag :=
  (u8_toNat _).trans (Nat.mod_eq_of_lt (tag_lt v))

theorem u8_tag_ne_zero (v : TVal) : ¬ (u8 v.tag = 0) := fun h =>
  tag_pos v (by rw [← u8_tag_toNat v, h]; rfl)

theorem serFields_len : ∀ fs : List (Nat × TVal), fs.length ≤ (serFields fs).length
  | [] => Nat.zero_le _
  | (id, v) :: r => by
    have := serFields_len r
    simp only [serFields, List.length_cons, List.length_append, be16_length]
    omega

mutual
theorem depth_le_ser : ∀ v : TVal, depth v ≤ (ser v).length
  | .bool _ | .i8 _ | .double _ | .i16 _ | .i32 _ | .i64 _ | .str _ => Nat.zero_le _
  | .strct fs => by
    have := depthFields_le_ser fs
    simp only [depth, ser, List.length_append, List.length_cons, List.length_nil]
    omega
  | .map _ _ es => by
    have := depthEntries_le_ser es
    simp only [depth, ser, List.length_append, List.length_cons, be32_length]
    omega
  | .set _ xs | .list _ xs => by
    have := depthList_le_ser xs
    simp only [depth, ser, List.length_append, List.length_cons, be32_length]
    omega
termination_by structural x => x
theorem depthFields_le_ser : ∀ fs : List (Nat × TVal), depthFields fs ≤ (serFields fs).length
  | [] => Nat.zero_le _
  | (_, v) :: r => by
    have := depth_le_ser v
    have := depthFields_le_ser r
    simp only [depthFields, serFields, List.length_append, List.length_cons]
    omega
termination_by structural x => x
theorem depthEntries_le_ser : ∀ es : List (TVal × TVal), depthEntries es ≤ (serEntries es).length
  | [] => Nat.zero_le _
  | (k, v) :: r => by
    have := depth_le_ser k
    have := depth_le_ser v
    have := depthEntries_le_ser r
    simp only [depthEntries, serEntries, List.length_append]
    omega
termination_by structural x => x
theorem depthList_le_ser : ∀ xs : List TVal, depthList xs ≤ (serList xs).length
  | [] => Nat.zero_le _
  | v :: r => by
    have := depth_le_ser v
    have := depthList_le_ser r
    simp only [depthList, serList, List.length_append]
    omega
termination_by structural x => x
end

mutual
theorem parse_ser : ∀ (v : TVal) (fuel : Nat) (r : Bytes), wf v = true → depth v < fuel →
    parse fuel v.tag (ser v ++ r) = some (v, r)
  | .bool b, fuel + 1, r, hw, _ | .i8 b, fuel + 1, r, hw, _ => by
    simp only [wf, decide_eq_true_eq] at hw
    simp [parse, TVal.tag, ser, rd8_u8 b r hw]
  | .double n, fuel + 1, r, hw, _ | .i64 n, fuel + 1, r, hw, _ => by
    simp only [wf, decide_eq_true_eq] at hw
    simp [parse, TVal.tag, ser, rd64_be64 n r hw]
  | .i16 n, fuel + 1, r, hw, _ => by
    simp only [wf, decide_eq_true_eq] at hw
    simp [parse, TVal.tag, ser, rd16_be16 n r hw]
  | .i32 n, fuel + 1, r, hw, _ => by
    simp only [wf, decide_eq_true_eq] at hw
    simp [parse, TVal.tag, ser, rd32_be32 n r hw]
  | .str s, fuel + 1, r, hw, _ => by
    simp only [wf, decide_eq_true_eq] at hw
    have hn : ¬ s.length ≥ 2147483648 := by omega
    simp only [parse, TVal.tag, ser, List.append_assoc, rd32_be32 s.length (s ++ r) (by omega)]
    simp [hn, takeBytes]
  | .strct fs, fuel + 1, r, hw, hd => by
    simp only [depth] at hd
    have hl := serFields_len fs
    have := parseFields_ser fs fuel ((serFields fs ++ 0 :: r).length + 1) r hw (by omega)
      (by simp only [List.length_append]; omega)
    simp only [parse, TVal.tag, ser, List.append_assoc, List.singleton_append]
    simp only [List.length_append, List.length_cons] at this
    simp [this]
  | .map kt vt es, fuel + 1, r, hw, hd => by
    simp only [wf, Bool.and_eq_true, decide_eq_true_eq] at hw
    obtain ⟨⟨⟨hk, hv⟩, hn⟩, he⟩ := hw
    have hk := codeOK_lt hk
    have hv := codeOK_lt hv
    simp only [depth] at hd
    have hn' : ¬ es.length ≥ 2147483648 := by omega
    have := parseEntries_ser kt vt es fuel r he (by omega)
    simp only [parse, TVal.tag, ser, List.cons_append, List.append_assoc, rd8_u8 kt _ (by omega),
      rd8_u8 vt _ (by omega), rd32_be32 es.length _ (by omega)]
    simp [hn', this]
  | .set et xs, fuel + 1, r, hw, hd | .list et xs, fuel + 1, r, hw, hd => by
    simp only [wf, Bool.and_eq_true, decide_eq_true_eq] at hw
    obtain ⟨⟨he, hn⟩, hl⟩ := hw
    have he := codeOK_lt he
    simp only [depth] at hd
    have hn' : ¬ xs.length ≥ 2147483648 := by omega
    have := parseList_ser et xs fuel r hl (by omega)
    simp only [parse, TVal.tag, ser, List.cons_append, List.append_assoc, rd8_u8 et _ (by omega),
      rd32_be32 xs.length _ (by omega)]
    simp [hn', this]
termination_by structural v => v
theorem parseFields_ser : ∀ (fs : List (Nat × TVal)) (fuel cnt : Nat) (r : Bytes), wfFields fs = true →
    depthFields fs < fuel → fs.length < cnt →
    parseFields (parse fuel) cnt (serFields fs ++ 0 :: r) = some (fs, r)
  | [], fuel, cnt + 1, r, _, _, _ => by
    simp [serFields, parseFields, rd8]
  | (id, v) :: t, fuel, cnt + 1, r, hw, hd, hc => by
    simp only [wfFields, Bool.and_eq_true, decide_eq_true_eq] at hw
    obtain ⟨⟨hid, hv⟩, ht⟩ := hw
    simp only [depthFields] at hd
    simp only [List.length_cons] at hc
    have h1 := parse_ser v fuel (serFields t ++ 0 :: r) hv (by omega)
    have h2 := parseFields_ser t fuel cnt r ht (by omega) (by omega)
    simp only [serFields, List.cons_append, List.append_assoc, parseFields, rd8_u8 v.tag _ (tag_lt v)]
    simp only [tag_pos v, ↓reduceIte, rd16_be16 id _ hid]
    simp [h1, h2]
termination_by structural fs => fs
theorem parseEntries_ser : ∀ (kt vt : Nat) (es : List (TVal × TVal)) (fuel : Nat) (r : Bytes),
    wfEntries kt vt es = true → depthEntries es < fuel →
    parseEntries (parse fuel kt) (parse fuel vt) es.length (serEntries es ++ r) = some (es, r)
  | _, _, [], _, r, _, _ => rfl
  | kt, vt, (k, v) :: t, fuel, r, hw, hd => by
    simp only [wfEntries, Bool.and_eq_true, beq_iff_eq] at hw
    obtain ⟨⟨⟨⟨rfl, rfl⟩, hk⟩, hv⟩, ht⟩ := hw
    simp only [depthEntries] at hd
    have h1 := parse_ser k fuel (ser v ++ serEntries t ++ r) hk (by omega)
    have h2 := parse_ser v fuel (serEntries t ++ r) hv (by omega)
    have h3 := parseEntries_ser _ _ t fuel r ht (by omega)
    simp only [List.append_assoc] at h1 h2
    simp [serEntries, parseEntries, h1, h2, h3]
termination_by structural _ _ es => es
theorem parseList_ser : ∀ (et : Nat) (xs : List TVal) (fuel : Nat) (r : Bytes),
    wfList et xs = true → depthList xs < fuel →
    parseList (parse fuel et) xs.length (serList xs ++ r) = some (xs, r)
  | _, [], _, r, _, _ => rfl
  | et, x :: t, fuel, r, hw, hd => by
    simp only [wfList, Bool.and_eq_true, beq_iff_eq] at hw
    obtain ⟨⟨rfl, hx⟩, ht⟩ := hw
    simp only [depthList] at hd
    have h1 := parse_ser x fuel (serList t ++ r) hx (by omega)
    have h2 := parseList_ser _ t fuel r ht (by omega)
    simp [serList, parseList, h1, h2]
termination_by structural _ xs => xs
end

theorem ser_injective (v w : TVal) (hv : wf v = true) (hw : wf w = true) (ht : v.tag = w.tag)
    (e : ser v = ser w) : v = w := by
  have a := parse_ser v (depth v + depth w + 1) [] hv (by omega)
  have b := parse_ser w (depth v + depth w + 1) [] hw (by omega)
  rw [ht, e] at a
  rw [a] at b
  exact (Prod.mk.inj (Option.some.inj b)).1

theorem serFields_append : ∀ (a b : List (Nat × TVal)), serFields (a ++ b) = serFields a ++ serFields b
  | [], b => rfl
  | (id, v) :: r, b => by simp [serFields, serFields_append r b]

theorem wfFields_append : ∀ (a b : List (Nat × TVal)), wfFields (a ++ b) = (wfFields a && wfFields b)
  | [], b => rfl
  | (id, v) :: r, b => by simp [wfFields, wfFields_append r b, Bool.and_assoc]

theorem depthFields_append : ∀ (a b : List (Nat × TVal)),
    depthFields (a ++ b) = max (depthFields a) (depthFields b)
  | [], b => rfl
  | (i, v) :: r, b => by simp [depthFields, depthFields_append r b, Nat.max_assoc]

theorem wfFields_sublist : ∀ (a b : List (Nat × TVal)), a.Sublist b → wfFields b = true → wfFields a = true
  | _, _, .slnil, h => h
  | a, _ :: b, .cons _ hs, h => by
    simp only [wfFields, Bool.and_eq_true] at h
    exact wfFields_sublist a b hs h.2
  | _ :: a, _ :: b, .cons_cons x hs, h => by
    obtain ⟨id, v⟩ := x
    simp only [wfFields, Bool.and_eq_true] at h ⊢
    exact ⟨h.1, wfFields_sublist a b hs h.2⟩

end Frugal
