/- Statements about every outcome, or about two runs, rewrite with the equations and `readVal_succ`.  A property
   of what is returned is an instance of `reader_induction`: for each way a read can succeed, why the
   assembled result has it when its parts have it. -/
import Frugal.Norm
import Frugal.Views
import Frugal.Proofs.Outcome
namespace Frugal

theorem ite_sc_or_other {c : Prop} [Decidable c] (a : Nat) {b : Outcome Val}
    (hb : (∃ n, b = .ok (.sc n)) ∨ b = .err .other) :
    (∃ n, (if c then .ok (.sc a) else b) = .ok (.sc n)) ∨ (if c then Outcome.ok (Val.sc a) else b) = .err .other := by
  by_cases h : c
  · exact .inl ⟨a, if_pos h⟩
  · rw [if_neg h]
    exact hb

theorem readFixed_cases (t : TT) (tv : TVal) :
    (∃ n, readFixed t tv = .ok (.sc n)) ∨ readFixed t tv = .err .other := by
  cases tv with
  | bool n | i8 n | double n | i16 n | i64 n => exact ite_sc_or_other _ (.inr rfl)
  | i32 n => exact ite_sc_or_other _ (ite_sc_or_other _ (.inr rfl))
  | _ => exact .inr rfl

theorem readFixed_ok {t : TT} {tv : TVal} {w : Val} (h : readFixed t tv = .ok w) : ∃ n, w = .sc n := by
  rcases readFixed_cases t tv with ⟨n, hn⟩ | he
  · rw [hn] at h; cases h; exact ⟨n, rfl⟩
  · rw [he] at h; cases h

theorem readStr_ok {isBin nc : Bool} {total tail : Nat} {tv : TVal} {w : Val}
    (h : readStr isBin nc total tail tv = .ok w) :
    ∃ s, tv = .str s ∧ (w = (if isBin then .bin false s else .str s) ∨
      nc = true ∧ s.length ≠ 0 ∧
        w = if isBin then .vbin (total - (s.length + tail)) s else .vstr (total - (s.length + tail)) s) := by
  cases tv with
  | str s =>
    refine ⟨s, rfl, ?_⟩
    unfold readStr at h
    dsimp only at h
    by_cases h0 : s.length = 0
    · rw [if_pos h0] at h
      obtain rfl := List.eq_nil_of_length_eq_zero h0
      exact .inl (Outcome.ok.inj h).symm
    · rw [if_neg h0] at h
      cases nc
      · exact .inl (Outcome.ok.inj h).symm
      · exact .inr ⟨rfl, h0, (Outcome.ok.inj h).symm⟩
  | _ => cases h

theorem zeroVal_plain (S : Schema) : ∀ (n : Nat) (t : Ty), plain (zeroVal S n t) = true
  | 0, t => by
    cases t with
    | base k => cases k <;> rfl
    | _ => rfl
  | n + 1, t => by
    cases t with
    | base k => cases k <;> rfl
    | strct sid =>
      simp only [zeroVal, plain]
      generalize (S.get sid).fields = fs
      induction fs with
      | nil => rfl
      | cons f r ih => simp only [List.map_cons, plainList, zeroVal_plain S n f.ty, ih, Bool.and_self]
    | _ => rfl

theorem readFixed_plain (t : TT) (tv : TVal) (w : Val) (h : readFixed t tv = .ok w) : plain w = true := by
  obtain ⟨n, rfl⟩ := readFixed_ok h
  rfl

theorem readStr_copy_plain (isBin : Bool) (total tail : Nat) (tv : TVal) (w : Val)
    (h : readStr isBin false total tail tv = .ok w) : plain w = true := by
  obtain ⟨s, _, hs⟩ := readStr_ok h
  rcases hs with rfl | ⟨hnc, _⟩
  · cases isBin <;> rfl
  · cases hnc

theorem wrapPtr_plain (t : Ty) (w : Val) (h : plain w = true) : plain (wrapPtr t w) = true := by
  unfold wrapPtr; split <;> simp [plain, h]

/-- what `applyInit` leaves in one field has what the old content and an assigned default have -/
theorem applyInit_head {q : Val → Prop} (f : Field) (v : Val) (hv : q v)
    (hd : f.assigned = true → ∀ d, f.dflt = some d → q d) :
    q (if f.assigned then f.dflt.getD v else v) := by
  by_cases ha : f.assigned = true
  · rw [if_pos ha]
    cases hdf : f.dflt with
    | none => exact hv
    | some d => exact hd ha d hdf
  · rw [if_neg ha]; exact hv

/-- `initDest` leaves its argument or, in a struct, applies `applyInit` to the fields -/
theorem initDest_cases {q : Val → Bool} (S : Schema) (sid : Nat) (d : Val) (h : q d = true)
    (hst : ∀ vs hh, q (.st vs hh) = true → q (.st (applyInit (S.get sid).fields vs) hh) = true) :
    q (initDest S sid d) = true := by
  cases d with
  | st vs hh =>
    simp only [initDest]
    split
    · exact hst vs hh h
    · exact h
  | _ => exact h

/-- `mapInsert` puts `(k, v)` in the place of one entry or after the last: a predicate on entries that is a
    conjunction over them holds of the result -/
theorem mapInsert_cases {Q : List (Val × Val) → Bool} {qk qv : Val → Bool} (kt : Ty) (hnil : Q [] = true)
    (hcons : ∀ a b r, Q ((a, b) :: r) = (qk a && qv b && Q r)) :
    ∀ (acc : List (Val × Val)) (k v : Val), Q acc = true → qk k = true → qv v = true →
      Q (mapInsert kt acc k v) = true
  | [], k, v, _, hk, hv => by rw [mapInsert, hcons, hk, hv, hnil]; rfl
  | (a, b) :: r, k, v, h, hk, hv => by
    rw [hcons, Bool.and_eq_true, Bool.and_eq_true] at h
    rw [mapInsert]
    split
    · rw [hcons, hk, hv, h.2]; rfl
    · rw [hcons, h.1.1, h.1.2, mapInsert_cases kt hnil hcons r k v h.2 hk hv]; rfl

theorem mapInsert_length_le (kt : Ty) : ∀ (acc : List (Val × Val)) (k v : Val),
    (mapInsert kt acc k v).length ≤ acc.length + 1
  | [], _, _ => Nat.le_refl 1
  | (a, b) :: r, k, v => by
    rw [mapInsert]
    split
    · exact Nat.le_succ _
    · exact Nat.succ_le_succ (mapInsert_length_le kt r k v)

section
variable (P : Params) (S : Schema) (total : Nat)

/-! What `readVal` does with one more level of depth depends on type and message alone: a fixed outcome (a
fixed-size value, or an error no run can avoid), a string read, or one of the loops on the parts. -/

inductive ReadShape
  | const (o : Outcome Val)
  | str (isBin : Bool)
  | map (kt vt : Ty) (es : List (TVal × TVal))
  | list (et : Ty) (xs : List TVal)
  | strct (sid : Nat) (fs : List (Nat × TVal))

def readShape (t : Ty) (tv : TVal) : ReadShape :=
  if specFixed t.tt > 0 then .const (readFixed t.tt tv)
  else match t, tv with
    | .base k, _ => .str (k == .binary)
    | .ptr _, _ => .const (.err .unknownType)
    | .map kt vt, .map a b es => if a ≠ kt.wire ∨ b ≠ vt.wire then .const (.err .typeMismatch) else .map kt vt es
    | .map _ _, _ => .const (.err .other)
    | .list _ et, .list a xs => if et.wire ≠ a then .const (.err .typeMismatch) else .list et xs
    | .list _ et, .set a xs => if et.wire ≠ a then .const (.err .typeMismatch) else .list et xs
    | .list _ _, _ => .const (.err .other)
    | .strct sid, .strct fs => .strct sid fs
    | .strct _, _ => .const (.err .other)

def ReadShape.run (P : Params) (S : Schema) (total fuel : Nat) (tv : TVal) (tail : Nat) (dest : Val) :
    ReadShape → Outcome Val
  | .const o => o
  | .str isBin => readStr isBin false total tail tv
  | .map kt vt es => (readEntries P S total fuel kt vt es tail []).mapv (.mp false)
  | .list et xs => (readList P S total fuel et xs tail).mapv (.lst false)
  | .strct sid fs => readStruct P S total fuel sid fs tail (initDest S sid dest)

theorem string_of_not_fixed {k : Kind} (h : ¬ specFixed (Ty.base k).tt > 0) : k.tt = .string := by
  cases k <;> first | rfl | exact absurd (by decide) h

theorem readVal_zero (t : Ty) (tv : TVal) (tail : Nat) (dest : Val) :
    readVal P S total 0 t tv tail dest = .err .depth := by
  unfold readVal; rfl

theorem readList_nil (fuel : Nat) (et : Ty) (tail : Nat) : readList P S total fuel et [] tail = .ok [] := by
  rw [readList]

/-- the length test of the reader is invisible: on the empty list the loop returns `[]` as well -/
theorem readList_length_test (fuel : Nat) (et : Ty) (xs : List TVal) (tail : Nat) :
    (if xs.length = 0 then Outcome.ok (Val.lst false []) else (readList P S total fuel et xs tail).mapv (.lst false)) =
      (readList P S total fuel et xs tail).mapv (.lst false) := by
  by_cases h0 : xs.length = 0
  · obtain rfl := List.eq_nil_of_length_eq_zero h0
    rw [if_pos h0, readList_nil]; rfl
  · rw [if_neg h0]

/- `rw [readVal]` derives the dozen case equations afresh in every declaration that asks for them; `unfold`
   uses the one made at definition.  `readVal` is unfolded here and in `readVal_zero` only. -/
theorem readVal_succ (fuel : Nat) (t : Ty) (tv : TVal) (tail : Nat) (dest : Val) :
    readVal P S total (fuel + 1) t tv tail dest = (readShape t tv).run P S total fuel tv tail dest := by
  unfold readVal readShape
  by_cases hfx : specFixed t.tt > 0
  · rw [if_pos hfx, if_pos hfx]; rfl
  · rw [if_neg hfx, if_neg hfx]
    cases t with
    | base k =>
      have hk : ((Ty.base k).tt == TT.string) = true := by rw [Ty.tt, string_of_not_fixed hfx]; rfl
      dsimp only
      rw [if_pos hk]; rfl
    | ptr e => rfl
    | map kt vt =>
      cases tv with
      | map a b es =>
        dsimp only
        by_cases hw : a ≠ kt.wire ∨ b ≠ vt.wire
        · rw [if_pos hw, if_pos hw]; rfl
        · rw [if_neg hw, if_neg hw]; rfl
      | _ => rfl
    | list s et =>
      cases tv with
      | list a xs | set a xs =>
        dsimp only
        by_cases hw : et.wire ≠ a
        · rw [if_pos hw, if_pos hw]; rfl
        · rw [if_neg hw, if_neg hw, readList_length_test]; rfl
      | _ => rfl
    | strct sid =>
      cases tv with
      | strct fs =>
        cases dest <;> first | rfl | (unfold initDest; split <;> rfl)
      | _ => rfl

theorem readVal_fixed {t : Ty} (h : specFixed t.tt > 0) (fuel : Nat) (tv : TVal) (tail : Nat) (dest : Val) :
    readVal P S total (fuel + 1) t tv tail dest = readFixed t.tt tv := by
  rw [readVal_succ]
  unfold readShape
  rw [if_pos h]; rfl

theorem readVal_str {k : Kind} (hk : k.tt = .string) (fuel : Nat) (tv : TVal) (tail : Nat) (dest : Val) :
    readVal P S total (fuel + 1) (.base k) tv tail dest = readStr (k == .binary) false total tail tv := by
  have hfx : ¬ specFixed (Ty.base k).tt > 0 := by rw [Ty.tt, hk]; exact Nat.lt_irrefl 0
  rw [readVal_succ]
  unfold readShape
  rw [if_neg hfx]; rfl

theorem readVal_ptr {e : Ty} (h : ¬ specFixed (Ty.ptr e).tt > 0) (fuel : Nat) (tv : TVal) (tail : Nat) (dest : Val) :
    readVal P S total (fuel + 1) (.ptr e) tv tail dest = .err .unknownType := by
  rw [readVal_succ]
  unfold readShape
  rw [if_neg h]; rfl

theorem readVal_map (fuel : Nat) (kt vt : Ty) (a b : Nat) (es : List (TVal × TVal)) (tail : Nat) (dest : Val) :
    readVal P S total (fuel + 1) (.map kt vt) (.map a b es) tail dest =
      if a ≠ kt.wire ∨ b ≠ vt.wire then .err .typeMismatch
      else (readEntries P S total fuel kt vt es tail []).mapv (.mp false) := by
  have hfx : ¬ specFixed (Ty.map kt vt).tt > 0 := Nat.lt_irrefl 0
  rw [readVal_succ]
  unfold readShape
  rw [if_neg hfx]
  dsimp only
  split <;> rfl

theorem readVal_list (fuel : Nat) (s : Bool) (et : Ty) (a : Nat) (xs : List TVal) (tail : Nat) (dest : Val) :
    readVal P S total (fuel + 1) (.list s et) (.list a xs) tail dest =
      if et.wire ≠ a then .err .typeMismatch else (readList P S total fuel et xs tail).mapv (.lst false) := by
  have hfx : ¬ specFixed (Ty.list s et).tt > 0 := by cases s <;> exact Nat.lt_irrefl 0
  rw [readVal_succ]
  unfold readShape
  rw [if_neg hfx]
  dsimp only
  split <;> rfl

theorem readVal_set (fuel : Nat) (s : Bool) (et : Ty) (a : Nat) (xs : List TVal) (tail : Nat) (dest : Val) :
    readVal P S total (fuel + 1) (.list s et) (.set a xs) tail dest =
      if et.wire ≠ a then .err .typeMismatch else (readList P S total fuel et xs tail).mapv (.lst false) := by
  have hfx : ¬ specFixed (Ty.list s et).tt > 0 := by cases s <;> exact Nat.lt_irrefl 0
  rw [readVal_succ]
  unfold readShape
  rw [if_neg hfx]
  dsimp only
  split <;> rfl

theorem readVal_strct (fuel sid : Nat) (fs : List (Nat × TVal)) (tail : Nat) (dest : Val) :
    readVal P S total (fuel + 1) (.strct sid) (.strct fs) tail dest =
      readStruct P S total fuel sid fs tail (initDest S sid dest) := by
  have hfx : ¬ specFixed (Ty.strct sid).tt > 0 := Nat.lt_irrefl 0
  rw [readVal_succ]
  unfold readShape
  rw [if_neg hfx]; rfl

theorem readStruct_zero (sid : Nat) (fs : List (Nat × TVal)) (tail : Nat) (dest : Val) :
    readStruct P S total 0 sid fs tail dest = .err .depth := by
  rw [readStruct]

theorem readStruct_st (fuel sid : Nat) (fs : List (Nat × TVal)) (tail : Nat) (vs : List Val) (h : Bytes) :
    readStruct P S total (fuel + 1) sid fs tail (.st vs h) =
      (readFields P S total fuel (S.get sid) fs (tail + 1) { fs := vs }).bind fun st =>
        match firstMissing (S.get sid).fields st.seen with
        | some f => .err (.required f.name)
        | none => .ok (.st st.fs (if (S.get sid).hasHolder && st.unk.length > 0 then st.unk else h)) := by
  rw [readStruct]
  cases readFields P S total fuel (S.get sid) fs (tail + 1) { fs := vs } <;> rfl

theorem readStruct_nonst (fuel sid : Nat) (fs : List (Nat × TVal)) (tail : Nat) (d : Val)
    (hne : ∀ vs h, d ≠ .st vs h) : readStruct P S total (fuel + 1) sid fs tail d = .err .other := by
  cases d <;> first | exact absurd rfl (hne _ _) | (unfold readStruct; rfl)

theorem readFields_nil (fuel : Nat) (sd : SDesc) (tail : Nat) (st : LoopSt) :
    readFields P S total fuel sd [] tail st = .ok st := by
  rw [readFields]

theorem readFields_unknown {sd : SDesc} {id : Nat} {v : TVal} (hk : lookupKnown sd id v.tag = none)
    (fuel : Nat) (r : List (Nat × TVal)) (tail : Nat) (st : LoopSt) :
    readFields P S total fuel sd ((id, v) :: r) tail st =
      if skipNeed v > P.skipDepth then .err .depth
      else readFields P S total fuel sd r tail
        (if sd.hasHolder then { st with unk := st.unk ++ serField id v } else st) := by
  rw [readFields, hk]

theorem readFields_known {sd : SDesc} {id : Nat} {v : TVal} {ix : Nat} {f : Field}
    (hk : lookupKnown sd id v.tag = some (ix, f)) (fuel : Nat) (r : List (Nat × TVal)) (tail : Nat) (st : LoopSt) :
    readFields P S total fuel sd ((id, v) :: r) tail st =
      (readField P S total fuel f v ((serFields r).length + tail) (st.fs.getD ix default)).bind fun x =>
        readFields P S total fuel sd r tail { st with fs := st.fs.set ix x, seen := f.id :: st.seen } := by
  rw [readFields, hk]; dsimp only
  cases readField P S total fuel f v ((serFields r).length + tail) (st.fs.getD ix default) <;> rfl

theorem readSlot_eq (fuel : Nat) (t : Ty) (x : TVal) (tail : Nat) (slot : Val) :
    readSlot P S total fuel t x tail slot =
      (if specFixed t.tt > 0 then readFixed t.tt x
       else readVal P S total fuel t.deref x tail (freshTarget S t slot)).mapv (wrapPtr t) := by
  rw [readSlot]; split <;> rfl

theorem readField_eq (fuel : Nat) (f : Field) (v : TVal) (tail : Nat) (slot : Val) :
    readField P S total fuel f v tail slot =
      if specFixed f.ty.tt = 0 ∧ f.nocopy = true then
        (readStr f.ty.deref.isBinary true total tail v).mapv (wrapPtr f.ty)
      else readSlot P S total fuel f.ty v tail slot := by
  rw [readField, readSlot]
  by_cases hfx : specFixed f.ty.tt > 0
  · simp only [hfx, ↓reduceIte, Nat.ne_of_gt hfx, false_and]
  · cases hnc : f.nocopy <;> simp [Nat.eq_zero_of_not_pos hfx]

theorem readList_cons (fuel : Nat) (et : Ty) (x : TVal) (r : List TVal) (tail : Nat) :
    readList P S total fuel et (x :: r) tail =
      (readSlot P S total fuel et x ((serList r).length + tail) (zeroVal S S.length et)).bind fun v =>
        (readList P S total fuel et r tail).mapv (v :: ·) := by
  rw [readList]
  cases readSlot P S total fuel et x ((serList r).length + tail) (zeroVal S S.length et) <;> try rfl
  cases readList P S total fuel et r tail <;> rfl

theorem readEntries_nil (fuel : Nat) (kt vt : Ty) (tail : Nat) (acc : List (Val × Val)) :
    readEntries P S total fuel kt vt [] tail acc = .ok acc := by
  rw [readEntries]

theorem readEntries_cons (fuel : Nat) (kt vt : Ty) (a b : TVal) (r : List (TVal × TVal)) (tail : Nat)
    (acc : List (Val × Val)) :
    readEntries P S total fuel kt vt ((a, b) :: r) tail acc =
      (readSlot P S total fuel kt a ((ser b).length + ((serEntries r).length + tail)) (zeroVal S S.length kt)).bind
        fun k =>
      (readSlot P S total fuel vt b ((serEntries r).length + tail) (zeroVal S S.length vt)).bind fun v =>
        readEntries P S total fuel kt vt r tail (mapInsert kt acc k v) := by
  rw [readEntries]
  cases readSlot P S total fuel kt a ((ser b).length + ((serEntries r).length + tail)) (zeroVal S S.length kt) <;>
    try rfl
  cases readSlot P S total fuel vt b ((serEntries r).length + tail) (zeroVal S S.length vt) <;> rfl

end

theorem readShape_spec (t : Ty) (tv : TVal) :
    match readShape t tv with
    | .const o => specFixed t.tt > 0 ∧ o = readFixed t.tt tv ∨ ∃ e, o = .err e ∧ e ≠ .depth
    | .str isBin => ∃ k, t = .base k ∧ k.tt = .string ∧ isBin = (k == .binary)
    | .map kt vt es => t = .map kt vt ∧ tv = .map kt.wire vt.wire es
    | .list et xs => (∃ s, t = .list s et) ∧ (tv = .list et.wire xs ∨ tv = .set et.wire xs)
    | .strct sid fs => t = .strct sid ∧ tv = .strct fs := by
  unfold readShape
  by_cases hfx : specFixed t.tt > 0
  · rw [if_pos hfx]; exact .inl ⟨hfx, rfl⟩
  · rw [if_neg hfx]
    cases t with
    | base k => exact ⟨k, rfl, string_of_not_fixed hfx, rfl⟩
    | ptr e => exact .inr ⟨_, rfl, nofun⟩
    | map kt vt =>
      cases tv with
      | map a b es =>
        dsimp only
        by_cases hw : a ≠ kt.wire ∨ b ≠ vt.wire
        · rw [if_pos hw]; exact .inr ⟨_, rfl, nofun⟩
        · rw [if_neg hw]
          obtain rfl : a = kt.wire := Decidable.of_not_not fun n => hw (.inl n)
          obtain rfl : b = vt.wire := Decidable.of_not_not fun n => hw (.inr n)
          exact ⟨rfl, rfl⟩
      | _ => exact .inr ⟨_, rfl, nofun⟩
    | list s et =>
      cases tv with
      | list a xs | set a xs =>
        dsimp only
        by_cases hw : et.wire ≠ a
        · rw [if_pos hw]; exact .inr ⟨_, rfl, nofun⟩
        · rw [if_neg hw]
          obtain rfl : et.wire = a := Decidable.of_not_not hw
          exact ⟨⟨s, rfl⟩, by first | exact .inl rfl | exact .inr rfl⟩
      | _ => exact .inr ⟨_, rfl, nofun⟩
    | strct sid =>
      cases tv with
      | strct fs => exact ⟨rfl, rfl⟩
      | _ => exact .inr ⟨_, rfl, nofun⟩

section
variable (P : Params) (S : Schema) (total : Nat)

/-! One judgement per function of the reader (`readField` is `readSlot` or a view, `readField_eq`).  Each
hypothesis is one way a read succeeds and offers the reads of the parts with their judgements.  The
conclusion is a conjunction so that the six motives are found by unification when the goal is stated.
A value read with `fuel + 1` reads its parts with `fuel` (containers) or `fuel - 1` (struct fields): plain
induction on `fuel` around list inductions, nothing mutual.  The cases keep their implicit binders: an instance
names the ones it needs with `@fun`, or gives the case by `exact` / `refine fun` over the explicit ones. -/
theorem reader_induction
    {MV : Nat → Ty → TVal → Nat → Val → Val → Prop}
    {MT : Nat → Nat → List (Nat × TVal) → Nat → Val → Val → Prop}
    {MF : Nat → SDesc → List (Nat × TVal) → Nat → LoopSt → LoopSt → Prop}
    {MS : Nat → Ty → TVal → Nat → Val → Val → Prop}
    {ML : Nat → Ty → List TVal → Nat → List Val → Prop}
    {ME : Nat → Ty → Ty → List (TVal × TVal) → Nat → List (Val × Val) → List (Val × Val) → Prop}
    (fixed : ∀ {fuel : Nat} {t : Ty} {tv : TVal} {tail : Nat} {dest w : Val}, specFixed t.tt > 0 → readFixed t.tt tv = .ok w →
      MV (fuel + 1) t tv tail dest w)
    (str : ∀ {fuel : Nat} {k : Kind} {tv : TVal} {tail : Nat} {dest w : Val}, k.tt = .string → readStr (k == .binary) false total tail tv = .ok w →
      MV (fuel + 1) (.base k) tv tail dest w)
    (map : ∀ {fuel : Nat} {kt vt : Ty} {es : List (TVal × TVal)} {tail : Nat} {dest : Val} {res : List (Val × Val)},
      readEntries P S total fuel kt vt es tail [] = .ok res →
      ME fuel kt vt es tail [] res → MV (fuel + 1) (.map kt vt) (.map kt.wire vt.wire es) tail dest (.mp false res))
    (list : ∀ {fuel : Nat} {s : Bool} {et : Ty} {xs : List TVal} {tail : Nat} {dest : Val} {vs : List Val},
      readList P S total fuel et xs tail = .ok vs →
      ML fuel et xs tail vs → MV (fuel + 1) (.list s et) (.list et.wire xs) tail dest (.lst false vs))
    (set : ∀ {fuel : Nat} {s : Bool} {et : Ty} {xs : List TVal} {tail : Nat} {dest : Val} {vs : List Val},
      readList P S total fuel et xs tail = .ok vs →
      ML fuel et xs tail vs → MV (fuel + 1) (.list s et) (.set et.wire xs) tail dest (.lst false vs))
    (structVal : ∀ {fuel sid : Nat} {fs : List (Nat × TVal)} {tail : Nat} {dest w : Val},
      readStruct P S total fuel sid fs tail (initDest S sid dest) = .ok w →
      MT fuel sid fs tail (initDest S sid dest) w → MV (fuel + 1) (.strct sid) (.strct fs) tail dest w)
    (struct : ∀ {fuel sid : Nat} {fs : List (Nat × TVal)} {tail : Nat} {vs : List Val} {h : Bytes} {st : LoopSt},
      readFields P S total fuel (S.get sid) fs (tail + 1) { fs := vs } = .ok st →
      firstMissing (S.get sid).fields st.seen = none → MF fuel (S.get sid) fs (tail + 1) { fs := vs } st →
      MT (fuel + 1) sid fs tail (.st vs h)
        (.st st.fs (if (S.get sid).hasHolder && st.unk.length > 0 then st.unk else h)))
    (fieldsNil : ∀ {fuel : Nat} {sd : SDesc} {tail : Nat} {st : LoopSt}, MF fuel sd [] tail st st)
    (fieldsUnknown : ∀ {fuel : Nat} {sd : SDesc} {id : Nat} {v : TVal} {r : List (Nat × TVal)} {tail : Nat}
      {st st' : LoopSt}, lookupKnown sd id v.tag = none → skipNeed v ≤ P.skipDepth →
      readFields P S total fuel sd r tail
        { st with unk := if sd.hasHolder then st.unk ++ serField id v else st.unk } = .ok st' →
      MF fuel sd r tail { st with unk := if sd.hasHolder then st.unk ++ serField id v else st.unk } st' →
      MF fuel sd ((id, v) :: r) tail st st')
    (fieldsView : ∀ {fuel : Nat} {sd : SDesc} {id : Nat} {v : TVal} {r : List (Nat × TVal)} {tail : Nat}
      {st : LoopSt} {ix : Nat} {f : Field} {w : Val} {st' : LoopSt}, lookupKnown sd id v.tag = some (ix, f) →
      specFixed f.ty.tt = 0 → f.nocopy = true →
      readStr f.ty.deref.isBinary true total ((serFields r).length + tail) v = .ok w →
      readFields P S total fuel sd r tail
        { st with fs := st.fs.set ix (wrapPtr f.ty w), seen := f.id :: st.seen } = .ok st' →
      MF fuel sd r tail { st with fs := st.fs.set ix (wrapPtr f.ty w), seen := f.id :: st.seen } st' →
      MF fuel sd ((id, v) :: r) tail st st')
    (fieldsKnown : ∀ {fuel : Nat} {sd : SDesc} {id : Nat} {v : TVal} {r : List (Nat × TVal)} {tail : Nat}
      {st : LoopSt} {ix : Nat} {f : Field} {x : Val} {st' : LoopSt}, lookupKnown sd id v.tag = some (ix, f) →
      ¬ (specFixed f.ty.tt = 0 ∧ f.nocopy = true) →
      readSlot P S total fuel f.ty v ((serFields r).length + tail) (st.fs.getD ix default) = .ok x →
      MS fuel f.ty v ((serFields r).length + tail) (st.fs.getD ix default) x →
      readFields P S total fuel sd r tail { st with fs := st.fs.set ix x, seen := f.id :: st.seen } = .ok st' →
      MF fuel sd r tail { st with fs := st.fs.set ix x, seen := f.id :: st.seen } st' →
      MF fuel sd ((id, v) :: r) tail st st')
    (slotFixed : ∀ {fuel : Nat} {t : Ty} {x : TVal} {tail : Nat} {slot w : Val}, specFixed t.tt > 0 → readFixed t.tt x = .ok w →
      MS fuel t x tail slot (wrapPtr t w))
    (slotVal : ∀ {fuel : Nat} {t : Ty} {x : TVal} {tail : Nat} {slot w : Val}, ¬ specFixed t.tt > 0 →
      readVal P S total fuel t.deref x tail (freshTarget S t slot) = .ok w →
      MV fuel t.deref x tail (freshTarget S t slot) w → MS fuel t x tail slot (wrapPtr t w))
    (listNil : ∀ {fuel : Nat} {et : Ty} {tail : Nat}, ML fuel et [] tail [])
    (listCons : ∀ {fuel : Nat} {et : Ty} {x : TVal} {r : List TVal} {tail : Nat} {v : Val} {vs : List Val},
      readSlot P S total fuel et x ((serList r).length + tail) (zeroVal S S.length et) = .ok v →
      MS fuel et x ((serList r).length + tail) (zeroVal S S.length et) v →
      readList P S total fuel et r tail = .ok vs → ML fuel et r tail vs → ML fuel et (x :: r) tail (v :: vs))
    (entriesNil : ∀ {fuel : Nat} {kt vt : Ty} {tail : Nat} {acc : List (Val × Val)}, ME fuel kt vt [] tail acc acc)
    (entriesCons : ∀ {fuel : Nat} {kt vt : Ty} {a b : TVal} {r : List (TVal × TVal)} {tail : Nat}
      {acc : List (Val × Val)} {k v : Val} {res : List (Val × Val)},
      readSlot P S total fuel kt a ((ser b).length + ((serEntries r).length + tail)) (zeroVal S S.length kt) = .ok k →
      MS fuel kt a ((ser b).length + ((serEntries r).length + tail)) (zeroVal S S.length kt) k →
      readSlot P S total fuel vt b ((serEntries r).length + tail) (zeroVal S S.length vt) = .ok v →
      MS fuel vt b ((serEntries r).length + tail) (zeroVal S S.length vt) v →
      readEntries P S total fuel kt vt r tail (mapInsert kt acc k v) = .ok res →
      ME fuel kt vt r tail (mapInsert kt acc k v) res → ME fuel kt vt ((a, b) :: r) tail acc res) :
    (∀ {fuel : Nat} {t : Ty} {tv : TVal} {tail : Nat} {dest w : Val}, readVal P S total fuel t tv tail dest = .ok w → MV fuel t tv tail dest w) ∧
    (∀ {fuel sid : Nat} {fs : List (Nat × TVal)} {tail : Nat} {dest w : Val},
      readStruct P S total fuel sid fs tail dest = .ok w → MT fuel sid fs tail dest w) ∧
    (∀ {fuel : Nat} {sd : SDesc} {fs : List (Nat × TVal)} {tail : Nat} {st st' : LoopSt},
      readFields P S total fuel sd fs tail st = .ok st' → MF fuel sd fs tail st st') ∧
    (∀ {fuel : Nat} {t : Ty} {x : TVal} {tail : Nat} {slot w : Val}, readSlot P S total fuel t x tail slot = .ok w → MS fuel t x tail slot w) ∧
    (∀ {fuel : Nat} {et : Ty} {xs : List TVal} {tail : Nat} {vs : List Val}, readList P S total fuel et xs tail = .ok vs → ML fuel et xs tail vs) ∧
    (∀ {fuel : Nat} {kt vt : Ty} {es : List (TVal × TVal)} {tail : Nat} {acc res : List (Val × Val)},
      readEntries P S total fuel kt vt es tail acc = .ok res →
      ME fuel kt vt es tail acc res) := by
  -- at one `fuel`: slots from values, then the three loops from slots, each by induction on its list
  have slot {fuel} (hV : ∀ {t tv tail dest w}, readVal P S total fuel t tv tail dest = .ok w → MV fuel t tv tail dest w)
      {t x tail slot w} (h : readSlot P S total fuel t x tail slot = .ok w) : MS fuel t x tail slot w := by
    rw [readSlot_eq] at h
    obtain ⟨w0, h0, rfl⟩ := Outcome.mapv_eq_ok.1 h
    by_cases hfx : specFixed t.tt > 0
    · rw [if_pos hfx] at h0
      exact slotFixed hfx h0
    · rw [if_neg hfx] at h0
      exact slotVal hfx h0 (hV h0)
  have lists {fuel} (hS : ∀ {t x tail slot w}, readSlot P S total fuel t x tail slot = .ok w → MS fuel t x tail slot w)
      {et} (xs) : ∀ {tail vs}, readList P S total fuel et xs tail = .ok vs → ML fuel et xs tail vs := by
    induction xs with
    | nil => intro tail vs h; rw [readList_nil] at h; cases h; exact listNil
    | cons x r ih =>
      intro tail vs h
      rw [readList_cons] at h
      obtain ⟨v, hv, h⟩ := Outcome.bind_eq_ok.1 h
      obtain ⟨ws, hws, rfl⟩ := Outcome.mapv_eq_ok.1 h
      exact listCons hv (hS hv) hws (ih hws)
  have entries {fuel} (hS : ∀ {t x tail slot w}, readSlot P S total fuel t x tail slot = .ok w → MS fuel t x tail slot w)
      {kt vt} (es) : ∀ {tail acc res}, readEntries P S total fuel kt vt es tail acc = .ok res →
        ME fuel kt vt es tail acc res := by
    induction es with
    | nil => intro tail acc res h; rw [readEntries_nil] at h; cases h; exact entriesNil
    | cons e r ih =>
      obtain ⟨a, b⟩ := e
      intro tail acc res h
      rw [readEntries_cons] at h
      obtain ⟨k, hk, h⟩ := Outcome.bind_eq_ok.1 h
      obtain ⟨v, hv, h⟩ := Outcome.bind_eq_ok.1 h
      exact entriesCons hk (hS hk) hv (hS hv) h (ih h)
  have fields {fuel} (hS : ∀ {t x tail slot w}, readSlot P S total fuel t x tail slot = .ok w → MS fuel t x tail slot w)
      {sd} (fs) : ∀ {tail st st'}, readFields P S total fuel sd fs tail st = .ok st' → MF fuel sd fs tail st st' := by
    induction fs with
    | nil => intro tail st st' h; rw [readFields_nil] at h; cases h; exact fieldsNil
    | cons p r ih =>
      obtain ⟨id, v⟩ := p
      intro tail st st' h
      cases hk : lookupKnown sd id v.tag with
      | none =>
        rw [readFields_unknown P S total hk] at h
        obtain ⟨hsk, h⟩ := Outcome.ok_of_ite h nofun
        have e : (if sd.hasHolder then { st with unk := st.unk ++ serField id v } else st) =
            { st with unk := if sd.hasHolder then st.unk ++ serField id v else st.unk } := by split <;> rfl
        rw [e] at h
        exact fieldsUnknown hk (Nat.le_of_not_gt hsk) h (ih h)
      | some p =>
        obtain ⟨ix, f⟩ := p
        rw [readFields_known P S total hk, readField_eq] at h
        obtain ⟨x, hx, h⟩ := Outcome.bind_eq_ok.1 h
        by_cases hv : specFixed f.ty.tt = 0 ∧ f.nocopy = true
        · rw [if_pos hv] at hx
          obtain ⟨w, hw, rfl⟩ := Outcome.mapv_eq_ok.1 hx
          exact fieldsView hk hv.1 hv.2 hw h (ih h)
        · rw [if_neg hv] at hx
          exact fieldsKnown hk hv hx (hS hx) h (ih h)
  have struct' {fuel} (hF : ∀ {sd fs tail st st'}, readFields P S total fuel sd fs tail st = .ok st' →
        MF fuel sd fs tail st st')
      {sid fs tail dest w} (h : readStruct P S total (fuel + 1) sid fs tail dest = .ok w) :
      MT (fuel + 1) sid fs tail dest w := by
    cases dest with
    | st vs hh =>
      rw [readStruct_st] at h
      obtain ⟨st, hl, h⟩ := Outcome.bind_eq_ok.1 h
      cases hm : firstMissing (S.get sid).fields st.seen with
      | some g => rw [hm] at h; cases h
      | none => rw [hm] at h; cases h; exact struct hl hm (hF hl)
    | _ =>
      unfold readStruct at h
      cases h
  have main : ∀ fuel,
      (∀ {t tv tail dest w}, readVal P S total fuel t tv tail dest = .ok w → MV fuel t tv tail dest w) ∧
      (∀ {sid fs tail dest w}, readStruct P S total fuel sid fs tail dest = .ok w → MT fuel sid fs tail dest w) := by
    intro fuel
    induction fuel with
    | zero =>
      exact ⟨fun h => by (rw [readVal_zero] at h; cases h), fun h => by (rw [readStruct_zero] at h; cases h)⟩
    | succ fuel ih =>
      refine ⟨?_, struct' (fields (slot ih.1) _)⟩
      intro t tv tail dest w h
      rw [readVal_succ] at h
      have hsp := readShape_spec t tv
      generalize readShape t tv = sh at h hsp
      cases sh with
      | const o =>
        rcases hsp with ⟨hfx, rfl⟩ | ⟨e, rfl, _⟩
        · exact fixed hfx h
        · cases h
      | str isBin =>
        obtain ⟨k, rfl, hk, rfl⟩ := hsp
        exact str hk h
      | map kt vt es =>
        obtain ⟨rfl, rfl⟩ := hsp
        obtain ⟨res, hr, rfl⟩ := Outcome.mapv_eq_ok.1 h
        exact map hr (entries (slot ih.1) es hr)
      | list et xs =>
        obtain ⟨⟨s, rfl⟩, htv⟩ := hsp
        obtain ⟨vs, hr, rfl⟩ := Outcome.mapv_eq_ok.1 h
        rcases htv with rfl | rfl
        · exact list hr (lists (slot ih.1) xs hr)
        · exact set hr (lists (slot ih.1) xs hr)
      | strct sid fs =>
        obtain ⟨rfl, rfl⟩ := hsp
        exact structVal h (ih.2 h)
  have hS {fuel} : ∀ {t x tail slot w}, readSlot P S total fuel t x tail slot = .ok w → MS fuel t x tail slot w :=
    slot (main fuel).1
  exact ⟨(main _).1, (main _).2, fields hS _, hS, lists hS _, entries hS _⟩

end
end Frugal
