/- `wf` lets the element code of an empty container be any non-negative int8; what frugal writes carries a
   protocol type code there too. -/
import Frugal.Proofs.ToWire  -- for the equation lemmas of `toWire` & co. made below it: cheaper than making them again
namespace Frugal

mutual
theorem toWire_codesStrict (S : Schema) : ∀ (v : Val) (ty : Ty), codesStrict (toWire S ty v) = true
  | .sc n, ty => by
    cases ty with
    | base k => cases k <;> rfl
    | _ => rfl
  | .str _, ty | .bin _ _, ty | .vstr _ _, ty | .vbin _ _, ty => by
    cases ty <;> rfl
  | .nilp, ty => by
    cases ty with
    | ptr e => cases e <;> rfl
    | _ => rfl
  | .ptr v, ty => by
    cases ty with
    | ptr e => simp only [toWire]; exact toWire_codesStrict S v e
    | _ => rfl
  | .lst n xs, ty => by
    cases ty with
    | list s e =>
      cases s <;> simp [toWire, codesStrict, isCode_wire, toWireList_codesStrict S xs e]
    | _ => rfl
  | .mp n es, ty => by
    cases ty with
    | map k v =>
      simp [toWire, codesStrict, isCode_wire, toWireEntries_codesStrict S es k v]
    | _ => rfl
  | .st fs h, ty => by
    cases ty with
    | strct sid =>
      exact toWireFields_codesStrict S fs (S.get sid) (S.get sid).fields
    | _ => rfl
termination_by structural x => x
theorem toWireList_codesStrict (S : Schema) : ∀ (xs : List Val) (e : Ty),
    codesStrictList (toWireList S e xs) = true
  | [], _ => rfl
  | x :: r, e => by
    simp [toWireList, codesStrictList, toWire_codesStrict S x e, toWireList_codesStrict S r e]
termination_by structural x => x
theorem toWireEntries_codesStrict (S : Schema) : ∀ (es : List (Val × Val)) (k v : Ty),
    codesStrictEntries (toWireEntries S k v es) = true
  | [], _, _ => rfl
  | (a, b) :: r, k, v => by
    simp [toWireEntries, codesStrictEntries, toWire_codesStrict S a k, toWire_codesStrict S b v,
      toWireEntries_codesStrict S r k v]
termination_by structural x => x
theorem toWireFields_codesStrict (S : Schema) : ∀ (xs : List Val) (sd : SDesc) (fs : List Field),
    codesStrictFields (toWireFields S sd fs xs) = true
  | [], _, fs => by cases fs <;> rfl
  | x :: xr, sd, [] => rfl
  | x :: xr, sd, f :: fr => by
    have ih := toWireFields_codesStrict S xr sd fr
    simp only [toWireFields]
    split
    · simp [codesStrictFields, toWire_codesStrict S x f.ty, ih]
    · exact ih
termination_by structural x => x
end

theorem toWireFields_ids_sublist (S : Schema) (sd : SDesc) : ∀ (fs : List Field) (xs : List Val),
    ((toWireFields S sd fs xs).map (·.1)).Sublist (fs.map (·.id))
  | [], _ => by simp [toWireFields]
  | f :: fr, [] => List.nil_sublist _
  | f :: fr, x :: xr => by
    have ih := toWireFields_ids_sublist S sd fr xr
    simp only [toWireFields]
    split
    · exact ih.cons_cons _
    · exact ih.cons _

end Frugal
