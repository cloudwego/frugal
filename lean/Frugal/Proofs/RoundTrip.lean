/- C01 = C02 ∘ C03 (`decode_encoded`), then the reader on the denotation returns the normal form; the statements
   about `toWire` / `norm` are those of ReadNormH.lean at `stripH v`. -/
import Frugal.Proofs.DecodeRefine
import Frugal.Proofs.EncodeRefine
import Frugal.Proofs.ReadNormH
import Frugal.Proofs.ToWire
namespace Frugal

section
variable (P : Params) (S : Schema) (total : Nat)
variable (hS : S.ok = true) (hside : S.rtSide)
include hS hside

theorem readSlot_norm : ∀ (v : Val) (t : Ty) (fuel tail : Nat) (slot : Val),
    t.ok = true → nilOK t v = true → hasTy S t v = true → rtOK S t v = true →
    (∀ sid, t = .strct sid → hasTy S t slot = true) →
    2 * depth (toWire S t v) + 1 ≤ fuel →
    readSlot P S total fuel t (toWire S t v) tail slot = .ok (norm S t v slot) := by
  intro v t fuel tail slot hok hnil ht hr hslot hd
  obtain ⟨ht', hw, hn, hr', hho, hu, -⟩ := (stripH_all S).1 t v ht
  rw [← hw, ← hn]
  exact readSlot_normH P S total hS hside (stripH v) t fuel tail slot hok (nilOK_stripH t v ▸ hnil) ht'
    (hr' ▸ hr) hho (hu P) hslot (hw ▸ hd)

theorem readList_norm : ∀ (xs : List Val) (e : Ty) (fuel tail : Nat),
    e.ok = true → (!e.isPtr || e.isStructPtr) = true → hasTyList S e xs = true → rtOKList S e xs = true →
    2 * depthList (toWireList S e xs) + 1 ≤ fuel →
    readList P S total fuel e (toWireList S e xs) tail = .ok (normList S e xs) := by
  intro xs e fuel tail hok hp ht hr hd
  obtain ⟨ht', hw, hn, hr', hho, hu, -⟩ := (stripH_all S).2.2.2 e xs ht
  rw [← hw, ← hn]
  exact readList_normH P S total hS hside (stripHList xs) e fuel tail hok hp ht' (hr' ▸ hr)
    hho (hu P) (hw ▸ hd)

theorem readEntries_norm : ∀ (es : List (Val × Val)) (k v : Ty) (acc : List (Val × Val)) (fuel tail : Nat),
    k.ok = true → v.ok = true → (!k.isPtr || k.isStructPtr) = true → (!v.isPtr || v.isStructPtr) = true →
    hasTyEntries S k v es = true → rtOKEntries S k v es = true →
    2 * depthEntries (toWireEntries S k v es) + 1 ≤ fuel →
    readEntries P S total fuel k v (toWireEntries S k v es) tail acc = .ok (normEntries S k v es acc) := by
  intro es k v acc fuel tail hk hv hkp hvp ht hr hd
  obtain ⟨ht', hw, hn, hr', hho, hu, -⟩ := (stripH_all S).2.2.1 k v es ht
  rw [← hw, ← hn]
  exact readEntries_normH P S total hS hside (stripHEntries es) k v acc fuel tail hk hv hkp hvp ht' (hr' ▸ hr)
    hho (hu P) (hw ▸ hd)

theorem readFields_norm : ∀ (xs : List Val) (sd : SDesc) (fs pre : List Field) (done ds : List Val)
    (seen : List Nat) (fuel tail : Nat),
    sd.fields = pre ++ fs → sd.fields.Pairwise (fun a b => a.id ≠ b.id) →
    (∀ g ∈ fs, g.ok = true ∧ g.nocopy = false) → done.length = pre.length →
    hasTyFields S fs xs = true → hasTyFields S fs ds = true → rtOKFields S sd fs xs = true →
    2 * depthFields (toWireFields S sd fs xs) + 1 ≤ fuel →
    readFields P S total fuel sd (toWireFields S sd fs xs) tail { fs := done ++ ds, seen := seen, unk := [] } =
      .ok { fs := done ++ normFields S sd fs xs ds, seen := seenOf sd fs xs seen, unk := [] } := by
  intro xs sd fs pre done ds seen fuel tail hsd hpw hok hlen ht hds hr hd
  obtain ⟨ht', hw, hn, hr', hho, hu, -⟩ := (stripH_all S).2.1 fs xs ht
  rw [← hw, ← hn, ← seenOf_stripH]
  exact readFields_normH P S total hS hside (stripHList xs) sd fs pre done ds seen fuel tail hsd hpw hok hlen
    ht' hds (hr' sd ▸ hr) hho (hu P) (hw sd ▸ hd)

end

/-- the fields a struct value denotes on the wire: the message `EncodeObject` writes for it, holder aside -/
def messageOf (S : Schema) (sid : Nat) (v : Val) : List (Nat × TVal) :=
  match v with
  | .st xs _ => toWireFields S (S.get sid) (S.get sid).fields xs
  | _ => []

/-- C02 ∘ C03, for any value whose reference encoding is `ser` of a well-formed message `F` -/
theorem decode_encoded {P : Params} (hP : P.valid = true) (S : Schema) (hS : S.ok = true) (sid : Nat)
    (v dest : Val) (F : List (Nat × TVal)) (ht : hasTy S (.strct sid) v = true)
    (henc : refEnc S (.strct sid) v = ser (.strct F)) (hwf : wfFields F = true) :
    decodeM P S sid (appendM P S sid v) dest =
      (readMessage P S sid F 0 dest).mapv (·, (appendM P S sid v).length) := by
  have e1 : appendM P S sid v = refEnc S (.strct sid) v := appendAny_eq hP S hS _ (.strct sid) rfl ht
  rw [e1, henc]
  simpa only [List.append_nil, List.length_nil] using decodeM_refines hP S hS sid F [] dest hwf

theorem roundtrip_via_reader {P : Params} (hP : P.valid = true) (S : Schema) (hS : S.ok = true) (sid : Nat)
    (xs : List Val) (dest : Val) (ht : hasTy S (.strct sid) (.st xs []) = true)
    (hn : noHolderList xs = true) (hf : sizesFitList xs = true) :
    decodeM P S sid (appendM P S sid (.st xs [])) dest =
      (readMessage P S sid (messageOf S sid (.st xs [])) 0 dest).mapv
        (·, (appendM P S sid (.st xs [])).length) := by
  exact decode_encoded hP S hS sid _ dest _ ht (refEnc_eq_ser S hS (.st xs []) (.strct sid) rfl rfl ht hn)
    (toWire_wf S hS (.st xs []) (.strct sid) rfl rfl ht hf)

theorem readMessage_norm {P : Params} (S : Schema) (hS : S.ok = true) (hside : S.rtSide) (sid : Nat)
    (xs : List Val) (h : Bytes) (ds : List Val) (h' : Bytes) (trailing : Nat)
    (ht : hasTy S (.strct sid) (.st xs h) = true) (hdest : hasTy S (.strct sid) (.st ds h') = true)
    (hr : rtOK S (.strct sid) (.st xs h) = true)
    (hd : 2 * depth (toWire S (.strct sid) (.st xs h)) ≤ P.maxDepth) :
    readMessage P S sid (messageOf S sid (.st xs h)) trailing (.st ds h') =
      .ok (normTop S sid (.st xs h) (.st ds h')) := by
  obtain ⟨ht', hw, -, hr', hho, hu, -⟩ := (stripH_all S).1 _ _ ht
  have hd' := hw ▸ (depth_toWire_le S).1 _ _ ht'
  have := readMessage_normH S hS hside sid (stripHList xs) [] ds h' trailing ht' hdest (hr' ▸ hr)
    hho (hu P) (Nat.le_trans (Nat.mul_le_mul_left 2 hd') hd)
  simp only [hasTy, Bool.and_eq_true] at ht
  obtain ⟨-, hF, hN, -⟩ := (stripH_all S).2.1 _ xs ht.2
  simpa only [normTopH, normTop, messageOf, hF, hN, holderFields_nil, List.append_nil, List.length_nil,
    Nat.lt_irrefl, gt_iff_lt, decide_false, Bool.and_false, Bool.false_eq_true, ↓reduceIte] using this

/-- C01 -/
theorem roundtrip_full {P : Params} (hP : P.valid = true) (S : Schema) (hS : S.ok = true) (hside : S.rtSide)
    (sid : Nat) (xs ds : List Val) (h' : Bytes)
    (ht : hasTy S (.strct sid) (.st xs []) = true) (hdest : hasTy S (.strct sid) (.st ds h') = true)
    (hn : noHolderList xs = true) (hf : sizesFitList xs = true)
    (hr : rtOK S (.strct sid) (.st xs []) = true)
    (hd : 2 * depth (toWire S (.strct sid) (.st xs [])) ≤ P.maxDepth) :
    decodeM P S sid (appendM P S sid (.st xs [])) (.st ds h') =
      .ok (normTop S sid (.st xs []) (.st ds h'), (appendM P S sid (.st xs [])).length) := by
  rw [roundtrip_via_reader hP S hS sid xs (.st ds h') ht hn hf,
    readMessage_norm S hS hside sid xs [] ds h' 0 ht hdest hr hd]
  rfl

/-- C01 / C11 with retained unknown-field bytes at every nesting level; they are skipped, not read, so only
    the depth of the recognised part counts -/
theorem roundtrip_holders_known_depth {P : Params} (hP : P.valid = true) (S : Schema) (hS : S.ok = true)
    (hside : S.rtSide) (sid : Nat) (xs ds : List Val) (h h' : Bytes)
    (ht : hasTy S (.strct sid) (.st xs h) = true) (hdest : hasTy S (.strct sid) (.st ds h') = true)
    (hfit : fitH (.st xs h) = true) (hu : unkOK P S (.strct sid) (.st xs h) = true)
    (hr : rtOK S (.strct sid) (.st xs h) = true)
    (hd : 2 * depth (toWire S (.strct sid) (.st xs h)) ≤ P.maxDepth) :
    decodeM P S sid (appendM P S sid (.st xs h)) (.st ds h') =
      .ok (normTopH S sid (.st xs h) (.st ds h'), (appendM P S sid (.st xs h)).length) := by
  have hho := fitH_holdersOK _ hfit
  have e2 := refEnc_eq_serH S hS (.st xs h) (.strct sid) rfl rfl ht hho
  have hwf := toWireH_wf S hS (.st xs h) (.strct sid) rfl rfl ht hfit
  rw [decode_encoded hP S hS sid _ (.st ds h') _ ht e2 hwf,
    readMessage_normH S hS hside sid xs h ds h' 0 ht hdest hr hho hu hd]
  rfl

theorem roundtrip_holders {P : Params} (hP : P.valid = true) (S : Schema) (hS : S.ok = true)
    (hside : S.rtSide) (sid : Nat) (xs ds : List Val) (h h' : Bytes)
    (ht : hasTy S (.strct sid) (.st xs h) = true) (hdest : hasTy S (.strct sid) (.st ds h') = true)
    (hfit : fitH (.st xs h) = true) (hu : unkOK P S (.strct sid) (.st xs h) = true)
    (hr : rtOK S (.strct sid) (.st xs h) = true)
    (hd : 2 * depth (toWireH S (.strct sid) (.st xs h)) ≤ P.maxDepth) :
    decodeM P S sid (appendM P S sid (.st xs h)) (.st ds h') =
      .ok (normTopH S sid (.st xs h) (.st ds h'), (appendM P S sid (.st xs h)).length) :=
  roundtrip_holders_known_depth hP S hS hside sid xs ds h h' ht hdest hfit hu hr
    (Nat.le_trans (Nat.mul_le_mul_left 2 ((depth_toWire_le S).1 _ _ ht)) hd)

/-- C01 with a holder at the top level: `h` serialises fields `us` the schema does not recognise (what a decode
    left there); a type without the holder has `h = []` and keeps the destination's -/
theorem roundtrip_top_holder {P : Params} (hP : P.valid = true) (S : Schema) (hS : S.ok = true)
    (hside : S.rtSide) (sid : Nat) (xs ds : List Val) (h h' : Bytes) (us : List (Nat × TVal))
    (hser : serFields us = h) (hwu : wfFields us = true)
    (hunk : ∀ p ∈ us, lookupKnown (S.get sid) p.1 p.2.tag = none ∧ skipNeed p.2 ≤ P.skipDepth)
    (ht : hasTy S (.strct sid) (.st xs h) = true) (hdest : hasTy S (.strct sid) (.st ds h') = true)
    (hn : noHolderList xs = true) (hf : sizesFitList xs = true)
    (hr : rtOK S (.strct sid) (.st xs h) = true)
    (hd : 2 * depth (toWire S (.strct sid) (.st xs h)) ≤ P.maxDepth) :
    decodeM P S sid (appendM P S sid (.st xs h)) (.st ds h') =
      .ok (.st (normFields S (S.get sid) (S.get sid).fields xs ds)
            (if (S.get sid).hasHolder && h.length > 0 then h else h'),
           (appendM P S sid (.st xs h)).length) := by
  subst hser
  have hx := stripHList_of_noHolder xs hn
  have hus := holderFields_ser us hwu
  have htf : hasTyFields S (S.get sid).fields xs = true := by
    simp only [hasTy, Bool.and_eq_true] at ht; exact ht.2
  obtain ⟨-, -, -, -, -, hux, hfx⟩ := (stripH_all S).2.1 _ xs htf
  have hfit : fitH (.st xs (serFields us)) = true := by
    simp only [fitH, hus, hwu, decide_true, Bool.true_and]
    exact hx ▸ hfx ▸ hf
  have hu : unkOK P S (.strct sid) (.st xs (serFields us)) = true := by
    simp only [unkOK, hus, Bool.and_eq_true]
    exact ⟨(unkFieldsOK_iff P _ _).2 hunk, hx ▸ hux P⟩
  rw [roundtrip_holders_known_depth hP S hS hside sid xs ds _ h' ht hdest hfit hu hr hd]
  simp only [normTopH, normFieldsH_of_noHolder S xs _ _ ds hn]

end Frugal
