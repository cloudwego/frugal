import Frugal.Proofs.ReaderProps
import Frugal.Proofs.TypedInduct
namespace Frugal

/- a value without views has every view in place, under any schema and at any type -/
mutual
theorem plain_views (inp : Bytes) : ∀ v : Val, plain v = true →
    viewsAt inp v = true ∧ ∀ (S : Schema) (t : Ty), viewsExact S inp t v = true
  | .sc _, _ | .str _, _ | .bin _ _, _ | .nilp, _ => ⟨rfl, fun _ t => by cases t <;> rfl⟩
  | .vstr _ _, h | .vbin _ _, h => by cases h
  | .ptr v, h => ⟨(plain_views inp v h).1, fun S t => by
      cases t with
      | ptr e => exact (plain_views inp v h).2 S e
      | _ => exact h⟩
  | .lst _ xs, h => ⟨(plainList_views inp xs h).1, fun S t => by
      cases t with
      | list s e => exact (plainList_views inp xs h).2.1 S e
      | _ => exact h⟩
  | .mp _ es, h => ⟨(plainEntries_views inp es h).1, fun S t => by
      cases t with
      | map k v => exact (plainEntries_views inp es h).2 S k v
      | _ => exact h⟩
  | .st fs _, h => ⟨(plainList_views inp fs h).1, fun S t => by
      cases t with
      | strct sid => exact (plainList_views inp fs h).2.2 S _
      | _ => exact h⟩
termination_by structural v => v
theorem plainList_views (inp : Bytes) : ∀ xs : List Val, plainList xs = true →
    viewsAtList inp xs = true ∧ (∀ (S : Schema) (e : Ty), viewsExactList S inp e xs = true) ∧
      ∀ (S : Schema) (fs : List Field), viewsExactFields S inp fs xs = true
  | [], _ => ⟨rfl, fun _ _ => rfl, fun _ fs => by cases fs <;> rfl⟩
  | x :: r, h => by
    have hp := h
    simp only [plainList, Bool.and_eq_true] at h
    have hx := plain_views inp x h.1
    have hr := plainList_views inp r h.2
    refine ⟨?_, fun S e => ?_, fun S fs => ?_⟩
    · simp only [viewsAtList, hx.1, hr.1, Bool.and_self]
    · simp only [viewsExactList, hx.2 S e, hr.2.1 S e, Bool.and_self]
    · cases fs with
      | nil => exact hp
      | cons f fr => simp only [viewsExactFields, hx.1, hx.2 S f.ty, hr.2.2 S fr, ite_self, Bool.and_self]
termination_by structural xs => xs
theorem plainEntries_views (inp : Bytes) : ∀ es : List (Val × Val), plainEntries es = true →
    viewsAtEntries inp es = true ∧ ∀ (S : Schema) (k v : Ty), viewsExactEntries S inp k v es = true
  | [], _ => ⟨rfl, fun _ _ _ => rfl⟩
  | (a, b) :: r, h => by
    simp only [plainEntries, Bool.and_eq_true] at h
    have ha := plain_views inp a h.1.1
    have hb := plain_views inp b h.1.2
    have hr := plainEntries_views inp r h.2
    refine ⟨?_, fun S k v => ?_⟩
    · simp only [viewsAtEntries, ha.1, hb.1, hr.1, Bool.and_self]
    · simp only [viewsExactEntries, ha.2 S k, hb.2 S v, hr.2 S k v, Bool.and_self]
termination_by structural es => es
end

theorem plain_viewsAt (inp : Bytes) : ∀ v : Val, plain v = true → viewsAt inp v = true :=
  fun v h => (plain_views inp v h).1
theorem plainList_viewsAt (inp : Bytes) : ∀ xs : List Val, plainList xs = true → viewsAtList inp xs = true :=
  fun xs h => (plainList_views inp xs h).1
theorem plainEntries_viewsAt (inp : Bytes) : ∀ es : List (Val × Val), plainEntries es = true →
    viewsAtEntries inp es = true :=
  fun es h => (plainEntries_views inp es h).1
theorem plain_viewsExact (S : Schema) (inp : Bytes) : ∀ (v : Val) (t : Ty), plain v = true →
    viewsExact S inp t v = true :=
  fun v t h => (plain_views inp v h).2 S t
theorem plainList_viewsExact (S : Schema) (inp : Bytes) : ∀ (xs : List Val) (e : Ty), plainList xs = true →
    viewsExactList S inp e xs = true :=
  fun xs e h => (plainList_views inp xs h).2.1 S e
theorem plainEntries_viewsExact (S : Schema) (inp : Bytes) : ∀ (es : List (Val × Val)) (k v : Ty),
    plainEntries es = true → viewsExactEntries S inp k v es = true :=
  fun es k v h => (plainEntries_views inp es h).2 S k v

theorem hasTy_plain_all (S : Schema) :
    (∀ (t : Ty) (v : Val), hasTy S t v = true → plain v = true) ∧
    (∀ (fs : List Field) (xs : List Val), hasTyFields S fs xs = true → plainList xs = true) ∧
    (∀ (k v : Ty) (es : List (Val × Val)), hasTyEntries S k v es = true → plainEntries es = true) ∧
    (∀ (e : Ty) (xs : List Val), hasTyList S e xs = true → plainList xs = true) := by
  apply hasTy_induct
  case sc | str | bin | nilp | lnil | enil | fnil => intros; rfl
  case ptr | lst | mp | st => intros; simp only [plain, *]
  case lcons | fcons => intros; simp only [plainList, *, Bool.and_self]
  case econs => intros; simp only [plainEntries, *, Bool.and_self]

theorem hasTy_plain (S : Schema) : ∀ (v : Val) (t : Ty), hasTy S t v = true → plain v = true :=
  fun v t => (hasTy_plain_all S).1 t v
theorem hasTyList_plain (S : Schema) : ∀ (xs : List Val) (e : Ty), hasTyList S e xs = true → plainList xs = true :=
  fun xs e => (hasTy_plain_all S).2.2.2 e xs
theorem hasTyEntries_plain (S : Schema) : ∀ (es : List (Val × Val)) (k v : Ty),
    hasTyEntries S k v es = true → plainEntries es = true :=
  fun es k v => (hasTy_plain_all S).2.2.1 k v es
theorem hasTyFields_plain (S : Schema) : ∀ (xs : List Val) (fs : List Field),
    hasTyFields S fs xs = true → plainList xs = true :=
  fun xs fs => (hasTy_plain_all S).2.1 fs xs

/-- the view is exactly the value's bytes at its place in the input -/
theorem readStr_nocopy_viewsAt (isBin : Bool) (inp pre post : Bytes) (tv : TVal) (w : Val)
    (hctx : inp = pre ++ ser tv ++ post)
    (h : readStr isBin true inp.length post.length tv = .ok w) : viewsAt inp w = true := by
  obtain ⟨s, rfl, hs⟩ := readStr_ok h
  rcases hs with rfl | ⟨_, hne, rfl⟩
  · cases isBin <;> rfl
  · -- the offset is the length of what precedes the string's bytes: `pre` and the length prefix
    have hsplit : inp = (pre ++ be32 s.length) ++ (s ++ post) := by rw [hctx]; simp [ser]
    have hoff : inp.length - (s.length + post.length) = (pre ++ be32 s.length).length := by
      rw [hsplit]; simp only [List.length_append]; omega
    have htake : (inp.drop (inp.length - (s.length + post.length))).take s.length = s := by
      rw [hoff]
      conv => lhs; arg 2; arg 2; rw [hsplit]
      rw [List.drop_left' rfl, List.take_left' rfl]
    have hs : s.isEmpty = false := List.isEmpty_eq_false_iff.2 (mt (congrArg List.length) hne)
    cases isBin <;>
      simp only [Bool.false_eq_true, ↓reduceIte, viewsAt, htake, hs, decide_true, Bool.not_false, Bool.and_self]

theorem wrapPtr_viewsExact (S : Schema) (inp : Bytes) (t : Ty) (w : Val)
    (h : viewsExact S inp t.deref w = true) : viewsExact S inp t (wrapPtr t w) = true := by
  cases t with
  | ptr e => unfold wrapPtr viewsExact; exact h
  | _ => exact h

theorem wrapPtr_viewsAt (inp : Bytes) (t : Ty) (w : Val) (h : viewsAt inp w = true) :
    viewsAt inp (wrapPtr t w) = true := by
  unfold wrapPtr; split <;> simp [viewsAt, h]

theorem applyInit_viewsExact (S : Schema) (inp : Bytes) : ∀ (fs : List Field) (vs : List Val),
    (∀ f ∈ fs, f.assigned = true → ∀ d, f.dflt = some d → plain d = true) →
    viewsExactFields S inp fs vs = true → viewsExactFields S inp fs (applyInit fs vs) = true
  | [], _, _, h | _ :: _, [], _, h => by simpa [applyInit] using h
  | f :: fr, v :: vr, hd, h => by
    simp only [viewsExactFields, Bool.and_eq_true] at h
    simp only [applyInit, viewsExactFields, Bool.and_eq_true]
    refine ⟨applyInit_head (q := fun x => (if f.nocopy then viewsAt inp x else viewsExact S inp f.ty x) = true)
        f v h.1 fun ha d hdf => ?_,
      applyInit_viewsExact S inp fr vr (fun g hg => hd g (List.mem_cons_of_mem _ hg)) h.2⟩
    have hp := hd f (List.mem_cons_self ..) ha d hdf
    split
    · exact plain_viewsAt inp d hp
    · exact plain_viewsExact S inp d f.ty hp

theorem viewsExactFields_at (S : Schema) (inp : Bytes) : ∀ (fs : List Field) (vs : List Val) (ix : Nat)
    (f : Field), fs[ix]? = some f → viewsExactFields S inp fs vs = true →
    (f.nocopy = false → viewsExact S inp f.ty (vs.getD ix default) = true) ∧
      ∀ x, (if f.nocopy then viewsAt inp x else viewsExact S inp f.ty x) = true →
        viewsExactFields S inp fs (vs.set ix x) = true
  | [], _, _, _, hf, _ => by simp at hf
  | _ :: _, [], _, _, _, h => ⟨fun _ => plain_viewsExact S inp _ _ rfl, fun _ _ => h⟩
  | g :: fr, v :: vr, 0, f, hf, h => by
    simp only [List.getElem?_cons_zero, Option.some.injEq] at hf
    subst hf
    simp only [viewsExactFields, Bool.and_eq_true] at h
    refine ⟨fun hn => ?_, fun x hx => ?_⟩
    · simpa [hn] using h.1
    · simp only [List.set_cons_zero, viewsExactFields, Bool.and_eq_true]
      exact ⟨hx, h.2⟩
  | g :: fr, v :: vr, ix + 1, f, hf, h => by
    simp only [viewsExactFields, Bool.and_eq_true] at h
    have ih := viewsExactFields_at S inp fr vr ix f hf h.2
    refine ⟨fun hn => by simpa [List.getD_eq_getElem?_getD] using ih.1 hn, fun x hx => ?_⟩
    simp only [List.set_cons_succ, viewsExactFields, Bool.and_eq_true]
    exact ⟨h.1, ih.2 x hx⟩

theorem initDest_viewsExact (S : Schema) (inp : Bytes) (sid : Nat) (d : Val)
    (hdf : ∀ f ∈ (S.get sid).fields, f.assigned = true → ∀ x, f.dflt = some x → plain x = true)
    (h : viewsExact S inp (.strct sid) d = true) : viewsExact S inp (.strct sid) (initDest S sid d) = true :=
  initDest_cases S sid d h fun _ _ h => applyInit_viewsExact S inp _ _ hdf h

section
variable (P : Params) (S : Schema) (inp : Bytes)

/-- Each judgement carries where its message sits in the input (`pre`, `post`), so that the view a `nocopy`
    field gets (`fieldsView`) can be compared with the bytes at its offset.  A fixed-size slot is plain,
    which is what a `nocopy` annotation on such a field comes to. -/
theorem reader_views
    (hdf : ∀ sid, ∀ f ∈ (S.get sid).fields, f.assigned = true → ∀ d, f.dflt = some d → plain d = true) :
    (∀ {fuel t tv tail dest w}, readVal P S inp.length fuel t tv tail dest = .ok w →
      ∀ pre post, inp = pre ++ ser tv ++ post → tail = post.length →
      (∀ sid, t = .strct sid → viewsExact S inp t dest = true) → viewsExact S inp t w = true) ∧
    (∀ {fuel sid fs tail dest w}, readStruct P S inp.length fuel sid fs tail dest = .ok w →
      ∀ pre post, inp = pre ++ ser (.strct fs) ++ post → tail = post.length →
      viewsExact S inp (.strct sid) dest = true → viewsExact S inp (.strct sid) w = true) ∧
    (∀ {fuel sd fs tail st st'}, readFields P S inp.length fuel sd fs tail st = .ok st' →
      ∀ pre post, inp = pre ++ serFields fs ++ post → tail = post.length →
      viewsExactFields S inp sd.fields st.fs = true → viewsExactFields S inp sd.fields st'.fs = true) ∧
    (∀ {fuel t x tail slot w}, readSlot P S inp.length fuel t x tail slot = .ok w →
      ∀ pre post, inp = pre ++ ser x ++ post → tail = post.length →
      (∀ sid, t = .strct sid → viewsExact S inp t slot = true) →
      viewsExact S inp t w = true ∧ (specFixed t.tt > 0 → plain w = true)) ∧
    (∀ {fuel et xs tail vs}, readList P S inp.length fuel et xs tail = .ok vs →
      ∀ pre post, inp = pre ++ serList xs ++ post → tail = post.length → viewsExactList S inp et vs = true) ∧
    (∀ {fuel kt vt es tail acc res}, readEntries P S inp.length fuel kt vt es tail acc = .ok res →
      ∀ pre post, inp = pre ++ serEntries es ++ post → tail = post.length →
      viewsExactEntries S inp kt vt acc = true → viewsExactEntries S inp kt vt res = true) := by
  have hzero (t : Ty) : ∀ sid, t = .strct sid → viewsExact S inp t (zeroVal S S.length t) = true :=
    fun _ _ => plain_viewsExact S inp _ _ (zeroVal_plain S _ _)
  apply reader_induction
  case fixed => exact fun _ h _ _ _ _ _ => plain_viewsExact S inp _ _ (readFixed_plain _ _ _ h)
  case str => exact fun _ h _ _ _ _ _ => plain_viewsExact S inp _ _ (readStr_copy_plain _ _ _ _ _ h)
  case map =>
    refine @fun _ kt vt es _ _ _ _ ih pre post hctx htail _ => ?_
    exact ih (pre ++ u8 kt.wire :: u8 vt.wire :: be32 es.length) post (by rw [hctx]; simp [ser]) htail rfl
  case list | set =>
    refine @fun _ _ et xs _ _ _ _ ih pre post hctx htail _ => ?_
    exact ih (pre ++ u8 et.wire :: be32 xs.length) post (by rw [hctx]; simp [ser]) htail
  case structVal =>
    exact fun _ ih pre post hctx htail hd =>
      ih pre post hctx htail (initDest_viewsExact S inp _ _ (hdf _) (hd _ rfl))
  case struct =>
    refine fun _ _ ih pre post hctx htail hd => ?_
    exact ih pre (0 :: post) (by rw [hctx]; simp [ser]) (by simp [htail]) hd
  case fieldsNil | entriesNil => exact fun _ _ _ _ h => h
  case fieldsUnknown =>
    refine @fun _ _ id v _ _ _ _ _ _ _ ih pre post hctx htail hs => ?_
    exact ih (pre ++ u8 v.tag :: be16 id ++ ser v) post (by rw [hctx]; simp [serFields]) htail hs
  case fieldsView =>
    refine @fun _ _ id v r tail _ _ _ _ _ hk _ hnc hv _ ih pre post hctx htail hs => ?_
    refine ih (pre ++ u8 v.tag :: be16 id ++ ser v) post (by rw [hctx]; simp [serFields]) htail ?_
    refine (viewsExactFields_at S inp _ _ _ _ (lookupKnown_getElem _ _ _ _ _ hk).1 hs).2 _ ?_
    rw [if_pos hnc]
    have htl : (serFields r).length + tail = (serFields r ++ post).length := by simp [htail]
    rw [htl] at hv
    exact wrapPtr_viewsAt inp _ _ (readStr_nocopy_viewsAt _ inp (pre ++ u8 v.tag :: be16 id) _ v _
      (by rw [hctx]; simp [serFields]) hv)
  case fieldsKnown =>
    refine @fun _ _ id v r _ _ _ f _ _ hk hnv _ ihx _ ih pre post hctx htail hs => ?_
    obtain ⟨hslot, hset⟩ := viewsExactFields_at S inp _ _ _ _ (lookupKnown_getElem _ _ _ _ _ hk).1 hs
    refine ih (pre ++ u8 v.tag :: be16 id ++ ser v) post (by rw [hctx]; simp [serFields]) htail (hset _ ?_)
    have hx := ihx (pre ++ u8 v.tag :: be16 id) (serFields r ++ post) (by rw [hctx]; simp [serFields])
      (by simp [htail])
    by_cases hnc : f.nocopy = true
    · rw [if_pos hnc]
      refine plain_viewsAt inp _ ((hx fun sid hsid => ?_).2 (Nat.pos_of_ne_zero fun h0 => hnv ⟨h0, hnc⟩))
      exact absurd ⟨by rw [hsid]; rfl, hnc⟩ hnv
    · rw [if_neg hnc]
      exact (hx fun _ _ => hslot (by simpa using hnc)).1
  case slotFixed =>
    refine @fun _ t _ _ _ _ _ h _ _ _ _ _ => ?_
    have := wrapPtr_plain t _ (readFixed_plain _ _ _ h)
    exact ⟨plain_viewsExact S inp _ _ this, fun _ => this⟩
  case slotVal =>
    refine @fun _ t _ _ slot _ hfx _ ih pre post hctx htail hs => ⟨?_, fun h => absurd h hfx⟩
    refine wrapPtr_viewsExact S inp _ _ (ih pre post hctx htail fun sid hsid => ?_)
    unfold freshTarget
    split
    · exact plain_viewsExact S inp _ _ (zeroVal_plain S _ _)
    · rename_i hp
      have hd : t.deref = t := deref_nonptr (by simpa using hp)
      rw [hd] at hsid ⊢
      exact hs sid hsid
  case listNil => exact fun _ _ _ _ => rfl
  case listCons =>
    refine @fun _ _ x r _ _ _ _ ihx _ ih pre post hctx htail => ?_
    simp only [viewsExactList, Bool.and_eq_true]
    exact ⟨(ihx pre (serList r ++ post) (by rw [hctx]; simp [serList]) (by simp [htail]) (hzero _)).1,
      ih (pre ++ ser x) post (by rw [hctx]; simp [serList]) htail⟩
  case entriesCons =>
    refine @fun _ _ _ a b r _ _ _ _ _ _ ihk _ ihv _ ih pre post hctx htail ha => ?_
    refine ih (pre ++ ser a ++ ser b) post (by rw [hctx]; simp [serEntries]) htail
      (mapInsert_cases _ rfl (fun _ _ _ => rfl) _ _ _ ha ?_ ?_)
    · exact (ihk pre (ser b ++ (serEntries r ++ post)) (by rw [hctx]; simp [serEntries]) (by simp [htail])
        (hzero _)).1
    · exact (ihv (pre ++ ser a) (serEntries r ++ post) (by rw [hctx]; simp [serEntries]) (by simp [htail])
        (hzero _)).1

variable (hdf : ∀ sid, ∀ f ∈ (S.get sid).fields, ∀ d, f.dflt = some d → plain d = true)
include hdf

theorem readVal_views : ∀ (tv : TVal) (fuel : Nat) (t : Ty) (tail : Nat) (dest w : Val) (pre post : Bytes),
    inp = pre ++ ser tv ++ post → tail = post.length →
    (∀ sid, t = .strct sid → viewsExact S inp t dest = true) →
    readVal P S inp.length fuel t tv tail dest = .ok w → viewsExact S inp t w = true :=
  fun _ _ _ _ _ _ pre post hctx htail hd h =>
    (reader_views P S inp fun sid f hf _ => hdf sid f hf).1 h pre post hctx htail hd

theorem readFields_views : ∀ (fs : List (Nat × TVal)) (fuel : Nat) (sd : SDesc) (tail : Nat) (st st' : LoopSt)
    (pre post : Bytes), inp = pre ++ serFields fs ++ post → tail = post.length →
    viewsExactFields S inp sd.fields st.fs = true →
    readFields P S inp.length fuel sd fs tail st = .ok st' → viewsExactFields S inp sd.fields st'.fs = true :=
  fun _ _ _ _ _ _ pre post hctx htail hs h =>
    (reader_views P S inp fun sid f hf _ => hdf sid f hf).2.2.1 h pre post hctx htail hs

theorem readList_views : ∀ (xs : List TVal) (fuel : Nat) (et : Ty) (tail : Nat) (vs : List Val) (pre post : Bytes),
    inp = pre ++ serList xs ++ post → tail = post.length →
    readList P S inp.length fuel et xs tail = .ok vs → viewsExactList S inp et vs = true :=
  fun _ _ _ _ _ pre post hctx htail h =>
    (reader_views P S inp fun sid f hf _ => hdf sid f hf).2.2.2.2.1 h pre post hctx htail

theorem readEntries_views : ∀ (es : List (TVal × TVal)) (fuel : Nat) (kt vt : Ty) (tail : Nat)
    (acc res : List (Val × Val)) (pre post : Bytes), inp = pre ++ serEntries es ++ post → tail = post.length →
    viewsExactEntries S inp kt vt acc = true →
    readEntries P S inp.length fuel kt vt es tail acc = .ok res → viewsExactEntries S inp kt vt res = true :=
  fun _ _ _ _ _ _ _ pre post hctx htail ha h =>
    (reader_views P S inp fun sid f hf _ => hdf sid f hf).2.2.2.2.2 h pre post hctx htail ha

theorem readMessage_views (sid : Nat) (fs : List (Nat × TVal)) (trailing : Bytes) (vs : List Val) (hh : Bytes)
    (w : Val) (hinp : inp = ser (.strct fs) ++ trailing) (hdest : plainList vs = true)
    (h : readMessage P S sid fs trailing.length (.st vs hh) = .ok w) :
    viewsExact S inp (.strct sid) w = true := by
  unfold readMessage at h
  have hlen : (ser (.strct fs)).length + trailing.length = inp.length := by rw [hinp]; simp
  rw [hlen] at h
  exact (reader_views P S inp fun sid f hf _ => hdf sid f hf).2.1 h [] trailing (by rw [hinp]; rfl) rfl
    ((plainList_views inp vs hdest).2.2 S _)

end
end Frugal
