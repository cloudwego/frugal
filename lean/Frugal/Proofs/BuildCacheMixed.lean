/- The build calls the type's `InitDefault`, which may panic on one call and work on the next (D21);
   `failing R bs` are the resolution results while the structs `bs` fail.  A use that succeeds under them never
   needed a failing struct, one that fails leaves no trace: a mixed history is the plain history of its successes. -/
import Frugal.Proofs.BuildCacheLemmas
namespace Frugal

theorem failing_length (R : List (Option SDesc)) (bs : List Nat) : (failing R bs).length = R.length := by
  simp [failing]

theorem failing_getD (R : List (Option SDesc)) (bs : List Nat) (i : Nat) :
    (failing R bs).getD i none = if bs.contains i then none else R.getD i none := by
  simp only [failing, List.getD_eq_getElem?_getD, List.getElem?_map, List.getElem?_zipIdx]
  cases R[i]? <;> simp

theorem fetchAll_mono (b b' : BKey → BSt → Bool × BSt)
    (h : ∀ k s s', b' k s = (true, s') → b k s = (true, s')) (ks : List BKey) (s s' : BSt)
    (hf : fetchAll b' ks s = (true, s')) : fetchAll b ks s = (true, s') := by
  fun_induction fetchAll b' ks s with
  | case1 => exact hf                   -- the cases of `fetchAll`, as in `fetchAll_frame`
  | case2 n r s hl ih =>
    rw [fetchAll, if_pos hl]
    exact ih hf
  | case3 n r s hl s1 hbn ih =>         -- `n` is built under `b'`, hence under `b` with the same result
    rw [fetchAll, if_neg hl, h n s s1 hbn]
    exact ih hf
  | case4 => cases hf

theorem build_mono (R' R : List (Option SDesc))
    (hsub : ∀ i sd, R'.getD i none = some sd → R.getD i none = some sd) :
    ∀ (fuel : Nat) (k : BKey) (s s' : BSt), build R' fuel k s = (true, s') → build R fuel k s = (true, s')
  | 0, _, _, _, h => by cases h
  | fuel + 1, k, s, s', h => by
    rw [build] at h ⊢
    by_cases hc : s.pf.contains k = true
    · rw [if_pos hc] at h ⊢
      exact h
    rw [if_neg hc] at h ⊢
    split at h
    · cases h
    next sd hr =>
    rw [hsub k.1 sd hr]
    dsimp only
    split at h
    · next e =>
      rw [fetchAll_mono (build R fuel) (build R' fuel) (build_mono R' R hsub fuel) _ _ _ e]
      exact h
    · cases h

theorem useType_failing_ok (R : List (Option SDesc)) (bs : List Nat) (sid : Nat) (st : CacheSt)
    (h : (useType (failing R bs) sid st).1 = true) : useType (failing R bs) sid st = useType R sid st := by
  unfold useType at h ⊢
  by_cases hp : st.pub.contains sid = true
  · rw [if_pos hp, if_pos hp]
  · rw [if_neg hp] at h ⊢
    rw [if_neg hp]
    have hfu : buildFuel (failing R bs) = buildFuel R := by simp [buildFuel, failing_length]
    rw [hfu] at h ⊢
    cases hb : build (failing R bs) (buildFuel R) (sid, false) { pf := st.pf, linked := st.linked } with
    | mk ok s =>
      rw [hb] at h
      cases ok with
      | false => cases h
      | true =>
        have := build_mono (failing R bs) R (by
          intro i sd hi
          rw [failing_getD] at hi
          split at hi
          · cases hi
          · exact hi) _ _ _ _ hb
        rw [this]

/-- a history in which every call comes with the set of structs whose user code fails during it -/
def useMixed (R : List (Option SDesc)) : List (Nat × List Nat) → CacheSt → CacheSt
  | [], st => st
  | (sid, bs) :: r, st => useMixed R r (useType (failing R bs) sid st).2

/-- the calls of such a history that succeeded -/
def succeeded (R : List (Option SDesc)) : List (Nat × List Nat) → CacheSt → List Nat
  | [], _ => []
  | (sid, bs) :: r, st =>
    if (useType (failing R bs) sid st).1 then sid :: succeeded R r (useType (failing R bs) sid st).2
    else succeeded R r (useType (failing R bs) sid st).2

theorem useMixed_eq_useAll (R : List (Option SDesc)) : ∀ (hist : List (Nat × List Nat)) (st : CacheSt),
    useMixed R hist st = useAll R (succeeded R hist st) st
  | [], st => rfl
  | (sid, bs) :: r, st => by
    simp only [useMixed, succeeded]
    cases h : (useType (failing R bs) sid st).1 with
    | true =>
      simp only [↓reduceIte, useAll]
      rw [← useType_failing_ok R bs sid st h]
      exact useMixed_eq_useAll R r _
    | false =>
      rw [useType_fail_unchanged (failing R bs) sid st h]
      exact useMixed_eq_useAll R r st

end Frugal
