/- the field loop on recognised fields followed by unrecognised ones: what an encoder writes for a value with a holder -/
import Frugal.Proofs.ReaderInd
import Frugal.Proofs.WireRT
namespace Frugal

/-- the first part is read with the bytes of the second still to come -/
theorem readFields_append (P : Params) (S : Schema) (total fuel : Nat) (sd : SDesc) :
    ∀ (A B : List (Nat × TVal)) (tail : Nat) (st : LoopSt),
      readFields P S total fuel sd (A ++ B) tail st =
        match readFields P S total fuel sd A ((serFields B).length + tail) st with
        | .ok st1 => readFields P S total fuel sd B tail st1
        | .err e => .err e
        | .panic p => .panic p
  | [], B, tail, st => by rw [List.nil_append, readFields_nil]
  | (id, v) :: r, B, tail, st => by
    rw [List.cons_append]
    cases hk : lookupKnown sd id v.tag with
    | none =>
      rw [readFields_unknown P S total hk, readFields_unknown P S total hk]
      by_cases hs : skipNeed v > P.skipDepth
      · rw [if_pos hs, if_pos hs]
      · rw [if_neg hs, if_neg hs]
        exact readFields_append P S total fuel sd r B tail _
    | some p =>
      obtain ⟨ix, f⟩ := p
      have hlen : (serFields (r ++ B)).length + tail = (serFields r).length + ((serFields B).length + tail) := by
        rw [serFields_append, List.length_append, Nat.add_assoc]
      rw [readFields_known P S total hk, readFields_known P S total hk, hlen]
      cases readField P S total fuel f v ((serFields r).length + ((serFields B).length + tail))
          (st.fs.getD ix default) with
      | ok x => exact readFields_append P S total fuel sd r B tail _
      | err _ | panic _ => rfl

theorem readFields_allUnknown (P : Params) (S : Schema) (total fuel : Nat) (sd : SDesc) :
    ∀ (us : List (Nat × TVal)) (tail : Nat) (st : LoopSt),
      (∀ p ∈ us, lookupKnown sd p.1 p.2.tag = none ∧ skipNeed p.2 ≤ P.skipDepth) →
      readFields P S total fuel sd us tail st =
        .ok { st with unk := st.unk ++ (if sd.hasHolder then serFields us else []) }
  | [], tail, st, _ => by
    rw [readFields_nil]
    cases sd.hasHolder <;> simp [serFields]
  | (id, v) :: r, tail, st, h => by
    have h0 := h (id, v) (List.mem_cons_self ..)
    rw [readFields_unknown P S total h0.1, if_neg (Nat.not_lt.2 h0.2),
      readFields_allUnknown P S total fuel sd r tail _ (fun p hp => h p (List.mem_cons_of_mem _ hp))]
    cases sd.hasHolder <;> simp [serFields, serField, List.append_assoc]

end Frugal
