/-
  Well-formedness is `wf` of Wire.lean, which asks of a container's element code only that it be a
  non-negative int8: the code of an *empty* container inside skipped data is looked at by no Thrift
  skipper, gopkg's included.
-/
import Frugal.Proofs.SkipEqns
import Frugal.Proofs.Outcome
namespace Frugal
open Outcome

/-- what a successful skip of `n ≤ len` bytes means -/
def SkipSound (sk : Nat → Bytes → Outcome Nat) : Prop :=
  ∀ t b n, sk t b = .ok n → n ≤ b.length → ∃ tv, wf tv = true ∧ tv.tag = t ∧ b = ser tv ++ b.drop n

set_option linter.unusedVariables false in
theorem len_of_split {b x r : Bytes} {n : Nat} (h : b = x ++ b.drop n) (hn : n ≤ b.length) : x.length = n := by
  have := congrArg List.length h
  simp only [List.length_append, List.length_drop] at this
  omega

theorem fixed_bytes_sound {t n : Nat} {b r : Bytes} (hfix : wireFixed t > 0)
    (h : rdBE (wireFixed t) b = some (n, r)) : ∃ tv, wf tv = true ∧ tv.tag = t ∧ b = ser tv ++ r := by
  obtain ⟨e, hn⟩ := rdBE_inv h
  obtain ⟨h1, h2, h3⟩ := scalarTV_spec hfix n
  exact ⟨_, by rw [h3]; exact decide_eq_true hn, h1, by rw [h2]; exact e⟩

theorem append_drop {b x y : Bytes} {k m : Nat} (h1 : b = x ++ b.drop k) (h2 : b.drop k = y ++ (b.drop k).drop m) :
    b = x ++ y ++ b.drop (k + m) := by
  rw [List.drop_drop] at h2
  rw [List.append_assoc, ← h2, ← h1]

theorem add_sub_sub {i k tot : Nat} (h : i + k ≤ tot) : k + (tot - (i + k)) = tot - i := by omega

theorem skipStr_sound (b : Bytes) (n : Nat) (h : skipStr b = .ok n) :
    ∃ tv, wf tv = true ∧ tv.tag = 11 ∧ b = ser tv ++ b.drop n := by
  unfold skipStr at h
  split at h
  · cases h
  · rename_i l r hr
    obtain ⟨e, hl⟩ := rd32_inv hr
    split at h
    · cases h
    · split at h
      · rename_i hneg hle
        cases h
        refine ⟨.str (r.take l), by simp only [wf, List.length_take, decide_eq_true_eq]; omega, rfl, ?_⟩
        have hmin : min l r.length = l := by omega
        have hd : b.drop (4 + l) = r.drop l := by
          rw [e, List.drop_append]
          simp
        rw [hd]
        simp only [ser, List.length_take, hmin, List.append_assoc, List.take_append_drop]
        exact e
      · cases h

section
variable {P : Params} (hP : P.valid = true)
include hP

theorem skipElem_sound (sk : Nat → Bytes → Outcome Nat) (hsk : SkipSound sk) (t : Nat) (b : Bytes) (k : Nat)
    (h : skipElem P sk t b = .ok k) (hk : k ≤ b.length) :
    ∃ tv, wf tv = true ∧ tv.tag = t ∧ b = ser tv ++ b.drop k := by
  unfold skipElem at h
  obtain ⟨hlt, h⟩ := ok_of_ite h nofun
  rw [skipFixed_eq hP t (by omega)] at h
  by_cases hfix : wireFixed t > 0
  · rw [if_pos hfix] at h
    cases h
    exact fixed_bytes_sound hfix (if_pos hk)
  rw [if_neg hfix] at h
  by_cases h11 : t = 11
  · subst h11
    exact skipStr_sound b k h
  · rw [if_neg h11] at h
    exact hsk t b k h hk

/-- An element that ends beyond the input leaves an empty rest, on which the loop returns at once:
    past the input, which `tot ≤ i + len` excludes. -/
theorem skipListLoop_sound (sk : Nat → Bytes → Outcome Nat) (hsk : SkipSound sk) (et : Nat) :
    ∀ (n : Nat) (b : Bytes) (i tot : Nat), skipListLoop P sk et n b i = .ok tot → tot ≤ i + b.length →
      i ≤ tot ∧ ∃ xs, xs.length = n ∧ wfList et xs = true ∧ b = serList xs ++ b.drop (tot - i)
  | 0, b, i, tot, h, _ => by
    cases h
    exact ⟨Nat.le_refl _, [], rfl, rfl, by simp [serList]⟩
  | n + 1, b, i, tot, h, hle => by
    rw [skipListLoop_succ] at h
    obtain ⟨_, h⟩ := ok_of_ite h nofun
    obtain ⟨k, hk, h⟩ := bind_eq_ok.1 h
    have hkb : k ≤ b.length := Decidable.byContradiction fun hh => by
      rw [List.drop_eq_nil_of_le (by omega)] at h
      have := skipListLoop_nil P sk h
      omega
    obtain ⟨hi, xs, hx1, hx2, hx3⟩ := skipListLoop_sound sk hsk et n (b.drop k) (i + k) tot h
      (by simp only [List.length_drop]; omega)
    obtain ⟨tv, w1, w2, w3⟩ := skipElem_sound hP sk hsk et b k hk hkb
    refine ⟨by omega, tv :: xs, by simp [hx1], by simp [wfList, w1, w2, hx2], ?_⟩
    have := append_drop w3 hx3
    rwa [add_sub_sub hi] at this

theorem skipMapLoop_sound (sk : Nat → Bytes → Outcome Nat) (hsk : SkipSound sk) (kt vt : Nat) :
    ∀ (n : Nat) (b : Bytes) (i tot : Nat), skipMapLoop P sk kt vt n b i = .ok tot → tot ≤ i + b.length →
      i ≤ tot ∧ ∃ es, es.length = n ∧ wfEntries kt vt es = true ∧ b = serEntries es ++ b.drop (tot - i)
  | 0, b, i, tot, h, _ => by
    cases h
    exact ⟨Nat.le_refl _, [], rfl, rfl, by simp [serEntries]⟩
  | n + 1, b, i, tot, h, hle => by
    rw [skipMapLoop_succ] at h
    obtain ⟨_, h⟩ := ok_of_ite h nofun
    obtain ⟨k, hk, h⟩ := bind_eq_ok.1 h
    obtain ⟨hne, h⟩ := ok_of_ite h nofun
    obtain ⟨k2, hk2, h⟩ := bind_eq_ok.1 h
    have hkb : k < b.length := Decidable.byContradiction fun hh =>
      hne (by rw [List.drop_eq_nil_of_le (by omega)]; rfl)
    have hk2b : k2 ≤ (b.drop k).length := Decidable.byContradiction fun hh => by
      rw [List.drop_eq_nil_of_le (by omega)] at h
      have := skipMapLoop_nil P sk h
      simp only [List.length_drop] at hh
      omega
    obtain ⟨hi, es, hx1, hx2, hx3⟩ := skipMapLoop_sound sk hsk kt vt n ((b.drop k).drop k2) (i + k + k2) tot h
      (by simp only [List.length_drop] at hk2b ⊢; omega)
    obtain ⟨tk, a1, a2, a3⟩ := skipElem_sound hP sk hsk kt b k hk (by omega)
    obtain ⟨tv, w1, w2, w3⟩ := skipElem_sound hP sk hsk vt (b.drop k) k2 hk2 hk2b
    refine ⟨by omega, (tk, tv) :: es, by simp [hx1], by simp [wfEntries, a1, a2, w1, w2, hx2], ?_⟩
    have := append_drop a3 (append_drop w3 hx3)
    rw [add_sub_sub hi, add_sub_sub (Nat.le_trans (Nat.le_add_right _ k2) hi)] at this
    simpa [serEntries] using this

theorem skipStructLoop_sound (sk : Nat → Bytes → Outcome Nat) (hsk : SkipSound sk) :
    ∀ (cnt : Nat) (b : Bytes) (i tot : Nat), skipStructLoop P sk cnt b i = .ok tot → tot ≤ i + b.length →
      i ≤ tot ∧ ∃ fs, wfFields fs = true ∧ b = serFields fs ++ [0] ++ b.drop (tot - i)
  | 0, b, i, tot, h, _ => by cases h
  | _ + 1, [], i, tot, h, _ => by cases h
  | cnt + 1, ft :: r, i, tot, h, hle => by
    rw [skipStructLoop_succ] at h
    by_cases hz : ft = 0
    · rw [if_pos hz] at h
      cases h
      subst hz
      exact ⟨by omega, [], rfl, by simp [serFields]⟩
    rw [if_neg hz] at h
    obtain ⟨hne, h⟩ := ok_of_ite h nofun
    rcases r with _ | ⟨a, _ | ⟨c, r1⟩⟩
    · exact absurd rfl hne
    · exact absurd rfl hne
    obtain ⟨k, hk, h⟩ := bind_eq_ok.1 h
    simp only [List.drop_succ_cons, List.drop_zero] at h hk
    have hkb : k ≤ r1.length := Decidable.byContradiction fun hh => by
      rw [List.drop_eq_nil_of_le (by omega)] at h
      exact skipStructLoop_nil P sk h
    obtain ⟨hi, fs, hf1, hf2⟩ := skipStructLoop_sound sk hsk cnt (r1.drop k) (i + 3 + k) tot h
      (by simp only [List.length_drop, List.length_cons] at hle ⊢; omega)
    obtain ⟨tv, w1, w2, w3⟩ := skipElem_sound hP sk hsk ft.toNat r1 k hk hkb
    obtain ⟨eid, hid⟩ := rd16_inv (b := a :: c :: r1) (r := r1) rfl
    generalize a.toNat * 256 + c.toNat = fid at eid hid
    refine ⟨by omega, (fid, tv) :: fs, by simp [wfFields, hid, w1, hf1], ?_⟩
    have hd : (r1.drop k).drop (tot - (i + 3 + k)) = (ft :: a :: c :: r1).drop (tot - i) := by
      rw [List.drop_drop, show tot - i = (k + (tot - (i + 3 + k))) + 3 by omega, List.drop_succ_cons,
        List.drop_succ_cons, List.drop_succ_cons]
    rw [hd] at hf2
    have hft : u8 tv.tag = ft := by rw [w2]; exact u8_toNat_self ft
    calc ft :: a :: c :: r1 = ft :: (be16 fid ++ r1) := by rw [← eid]
      _ = ft :: (be16 fid ++ (ser tv ++ r1.drop k)) := by rw [← w3]
      _ = serFields ((fid, tv) :: fs) ++ [0] ++ (ft :: a :: c :: r1).drop (tot - i) := by
          rw [hf2]; simp [serFields, hft]

omit hP in
theorem fixed_list_sound (et : Nat) (hfix : wireFixed et > 0) : ∀ (sz : Nat) (b : Bytes),
    sz * wireFixed et ≤ b.length →
    ∃ xs, xs.length = sz ∧ wfList et xs = true ∧ b = serList xs ++ b.drop (sz * wireFixed et)
  | 0, b, _ => ⟨[], rfl, rfl, by simp [serList]⟩
  | sz + 1, b, h => by
    have h1 : wireFixed et ≤ b.length := by rw [Nat.succ_mul] at h; omega
    obtain ⟨tv, w1, w2, w3⟩ := fixed_bytes_sound hfix (if_pos h1)
    obtain ⟨xs, x1, x2, x3⟩ := fixed_list_sound et hfix sz (b.drop (wireFixed et))
      (by simp only [List.length_drop]; rw [Nat.succ_mul] at h; omega)
    refine ⟨tv :: xs, by simp [x1], by simp [wfList, w1, w2, x2], ?_⟩
    have := append_drop w3 x3
    rwa [show wireFixed et + sz * wireFixed et = (sz + 1) * wireFixed et by rw [Nat.succ_mul]; omega] at this

omit hP in
theorem fixed_entries_sound (kt vt : Nat) (hk : wireFixed kt > 0) (hv : wireFixed vt > 0) :
    ∀ (sz : Nat) (b : Bytes), sz * (wireFixed kt + wireFixed vt) ≤ b.length →
    ∃ es, es.length = sz ∧ wfEntries kt vt es = true ∧
      b = serEntries es ++ b.drop (sz * (wireFixed kt + wireFixed vt))
  | 0, b, _ => ⟨[], rfl, rfl, by simp [serEntries]⟩
  | sz + 1, b, h => by
    rw [Nat.succ_mul] at h
    obtain ⟨tk, a1, a2, a3⟩ := fixed_bytes_sound (b := b) hk (if_pos (by omega))
    obtain ⟨tv, w1, w2, w3⟩ := fixed_bytes_sound (b := b.drop (wireFixed kt)) hv
      (if_pos (by simp only [List.length_drop]; omega))
    obtain ⟨es, x1, x2, x3⟩ := fixed_entries_sound kt vt hk hv sz ((b.drop (wireFixed kt)).drop (wireFixed vt))
      (by simp only [List.length_drop]; omega)
    refine ⟨(tk, tv) :: es, by simp [x1], by simp [wfEntries, a1, a2, w1, w2, x2], ?_⟩
    have := append_drop a3 (append_drop w3 x3)
    rw [show wireFixed kt + (wireFixed vt + sz * (wireFixed kt + wireFixed vt)) =
      (sz + 1) * (wireFixed kt + wireFixed vt) by rw [Nat.succ_mul]; omega] at this
    simpa [serEntries] using this

omit hP in
theorem drop_header (hd r : Bytes) (n : Nat) (h : hd.length ≤ n) : (hd ++ r).drop n = r.drop (n - hd.length) := by
  rw [List.drop_append, List.drop_eq_nil_of_le h, List.nil_append]

theorem skipMap_sound (sk : Nat → Bytes → Outcome Nat) (hsk : SkipSound sk) (b : Bytes) (n : Nat)
    (h : skipMap P sk b = .ok n) (hn : n ≤ b.length) :
    ∃ tv, wf tv = true ∧ tv.tag = 13 ∧ b = ser tv ++ b.drop n := by
  unfold skipMap at h
  split at h
  · cases h
  rename_i kt r hr
  split at h
  · cases h
  rename_i vt r1 hr1
  split at h
  · cases h
  rename_i sz r2 hr2
  obtain ⟨hs, h⟩ := ok_of_ite h nofun
  obtain ⟨hc, h⟩ := ok_of_ite h nofun
  have hk : kt < 128 := by omega
  have hv : vt < 128 := by omega
  obtain ⟨rfl, _⟩ := rd8_inv hr
  obtain ⟨rfl, _⟩ := rd8_inv hr1
  obtain ⟨rfl, _⟩ := rd32_inv hr2
  simp only [List.length_cons, List.length_append, be32_length] at hn
  rw [skipFixed_eq hP kt hk, skipFixed_eq hP vt hv] at h
  -- the entries: `n - 6` bytes of `r2`, by the fast path or by the loop
  have hes : 6 ≤ n ∧ ∃ es, es.length = sz ∧ wfEntries kt vt es = true ∧
      r2 = serEntries es ++ r2.drop (n - 6) := by
    by_cases hboth : wireFixed kt > 0 ∧ wireFixed vt > 0
    · rw [if_pos hboth] at h
      obtain ⟨hfit, h⟩ := ok_of_ite h nofun
      cases h
      obtain ⟨es, x⟩ := fixed_entries_sound kt vt hboth.1 hboth.2 sz r2 (by omega)
      exact ⟨by omega, es, by rwa [Nat.add_sub_cancel_left]⟩
    · rw [if_neg hboth] at h
      exact skipMapLoop_sound hP sk hsk kt vt sz r2 6 n h (by omega)
  obtain ⟨h6, es, x1, x2, x3⟩ := hes
  refine ⟨.map kt vt es, by simp [wf, codeOK, hk, hv, x1, x2]; omega, rfl, ?_⟩
  have hd := drop_header (u8 kt :: u8 vt :: be32 sz) r2 n (by simpa using h6)
  simp only [List.cons_append, List.length_cons, be32_length] at hd
  rw [hd]
  simp only [ser, x1, List.cons_append, List.append_assoc]
  rw [← x3]

/-- lists and sets share the wire form: which of the two it is, the caller's tag says -/
theorem skipList_sound (sk : Nat → Bytes → Outcome Nat) (hsk : SkipSound sk) (b : Bytes) (n : Nat)
    (h : skipList P sk b = .ok n) (hn : n ≤ b.length) :
    ∃ et xs, et < 128 ∧ xs.length < 2147483648 ∧ wfList et xs = true ∧
      b = u8 et :: (be32 xs.length ++ (serList xs ++ b.drop n)) := by
  unfold skipList at h
  split at h
  · cases h
  rename_i et r hr
  split at h
  · cases h
  rename_i sz r1 hr1
  obtain ⟨hs, h⟩ := ok_of_ite h nofun
  obtain ⟨hc, h⟩ := ok_of_ite h nofun
  have he : et < 128 := by omega
  obtain ⟨rfl, _⟩ := rd8_inv hr
  obtain ⟨rfl, _⟩ := rd32_inv hr1
  simp only [List.length_cons, List.length_append, be32_length] at hn
  rw [skipFixed_eq hP et he] at h
  have hxs : 5 ≤ n ∧ ∃ xs, xs.length = sz ∧ wfList et xs = true ∧ r1 = serList xs ++ r1.drop (n - 5) := by
    by_cases hfix : wireFixed et > 0
    · rw [if_pos hfix] at h
      obtain ⟨hfit, h⟩ := ok_of_ite h nofun
      cases h
      obtain ⟨xs, x⟩ := fixed_list_sound et hfix sz r1 (by omega)
      exact ⟨by omega, xs, by rwa [Nat.add_sub_cancel_left]⟩
    · rw [if_neg hfix] at h
      exact skipListLoop_sound hP sk hsk et sz r1 5 n h (by omega)
  obtain ⟨h5, xs, x1, x2, x3⟩ := hxs
  have hd := drop_header (u8 et :: be32 sz) r1 n (by simpa using h5)
  simp only [List.cons_append, List.length_cons, be32_length] at hd
  refine ⟨et, xs, he, by omega, x2, ?_⟩
  rw [hd, x1, ← x3]

theorem skipType_sound : ∀ fuel : Nat, SkipSound (skipType P fuel)
  | 0 => fun _ _ _ h => nomatch h
  | fuel + 1 => by
    intro t b n h hn
    have ih := skipType_sound fuel
    by_cases ht : t < 128
    case neg => rw [skipType_succ, if_pos (by omega)] at h; cases h
    by_cases hfix : wireFixed t > 0
    · rw [skipType_fixed hP fuel b ht hfix] at h
      obtain ⟨_, h⟩ := ok_of_ite h nofun
      cases h
      exact fixed_bytes_sound hfix (if_pos hn)
    rw [skipType_var hP fuel b ht hfix] at h
    by_cases h11 : t = 11
    · rw [if_pos h11] at h
      subst h11
      exact skipStr_sound b n h
    rw [if_neg h11] at h
    by_cases h13 : t = 13
    · rw [if_pos h13] at h
      subst h13
      exact skipMap_sound hP _ ih b n h hn
    rw [if_neg h13] at h
    by_cases hsl : t = 14 ∨ t = 15
    · rw [if_pos hsl] at h
      obtain ⟨et, xs, he, hl, hw, e⟩ := skipList_sound hP _ ih b n h hn
      rcases hsl with rfl | rfl
      · exact ⟨.set et xs, by simp [wf, codeOK, he, hl, hw], rfl, e⟩
      · exact ⟨.list et xs, by simp [wf, codeOK, he, hl, hw], rfl, e⟩
    rw [if_neg hsl] at h
    by_cases h12 : t = 12
    · rw [if_pos h12] at h
      obtain ⟨_, fs, f1, f2⟩ := skipStructLoop_sound hP (skipType P fuel) ih (b.length + 1) b 0 n h
        (by omega)
      exact ⟨.strct fs, f1, h12.symm, f2⟩
    · rw [if_neg h12] at h; cases h

end
end Frugal
