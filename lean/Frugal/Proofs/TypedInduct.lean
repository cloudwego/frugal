/-
  What `S.ok`, `Field.ok` and `Ty.ok` give; then induction over `hasTy S ty v = true`.  Four motives (value, fields,
  entries, list) because the judgement is four mutually recursive functions; an instance proves their conjunction.
  Trap: write the type of every bound variable in the case hypotheses; with untyped binders Lean retries every
  postponed `.ctor` after each binder.
-/
import Frugal.Schema
import Frugal.Valid
namespace Frugal

/-- close a goal whose hypothesis claims an ill-typed (type, value) pair is well typed -/
macro "hasTy_absurd" h:ident : tactic => `(tactic| (unfold hasTy at $h:ident; simp at $h:ident))
macro "hasTy_no" h:ident : tactic => `(tactic| (unfold hasTy at $h:ident; simp at $h:ident; done))

theorem sd_fields_ok {S : Schema} (hS : S.ok = true) (sid : Nat) :
    ∀ f ∈ (S.get sid).fields, f.ok = true := by
  refine List.all_eq_true.1 (?_ : (S.get sid).ok = true)
  rw [Schema.get, List.getD_eq_getElem?_getD]
  cases hg : S[sid]? with
  | none => rfl
  | some sd => exact List.all_eq_true.1 hS sd (List.mem_of_getElem? hg)

theorem Field.ok_ty {f : Field} (h : f.ok = true) : f.ty.ok = true := by
  simp only [Field.ok, Bool.and_eq_true] at h
  exact h.1.1.1

theorem Ty.ok_list {s : Bool} {e : Ty} (h : (Ty.list s e).ok = true) :
    e.ok = true ∧ (!e.isPtr || e.isStructPtr) = true := by
  simpa only [Ty.ok, Bool.and_eq_true] using h

theorem Ty.ok_map {k v : Ty} (h : (Ty.map k v).ok = true) :
    (k.ok = true ∧ (!k.isPtr || k.isStructPtr) = true) ∧ v.ok = true ∧ (!v.isPtr || v.isStructPtr) = true := by
  simp only [Ty.ok, Bool.and_eq_true] at h
  obtain ⟨⟨⟨hk, hv⟩, hvp⟩, hkk⟩ := h
  refine ⟨⟨hk, ?_⟩, hv, hvp⟩
  cases k with
  | ptr e => cases e <;> first | rfl | cases hkk
  | _ => rfl

theorem deref_nonptr {e : Ty} (h : e.isPtr = false) : e.deref = e := by
  cases e <;> simp [Ty.isPtr] at h <;> rfl

theorem Ty.ok_ptr {e : Ty} (h : (Ty.ptr e).ok = true) : (∃ k, e = .base k) ∨ ∃ sid, e = .strct sid := by
  cases e with
  | base k => exact .inl ⟨k, rfl⟩
  | strct sid => exact .inr ⟨sid, rfl⟩
  | _ => simp [Ty.ok] at h

theorem Field.nocopy_string {f : Field} (h : f.ok = true) (hn : f.nocopy = true) : f.ty.tt = .string := by
  simp only [Field.ok, Bool.and_eq_true, Bool.or_eq_true, Bool.not_eq_true', beq_iff_eq] at h
  exact h.1.2.resolve_left (ne_false_of_eq_true hn)

theorem fixed_deref_base (t : Ty) (hok : t.ok = true) (hfx : specFixed t.tt > 0) :
    ∃ k, t.deref = .base k ∧ t.tt = k.tt := by
  cases t with
  | base k => exact ⟨k, rfl, rfl⟩
  | ptr e =>
    rcases Ty.ok_ptr hok with ⟨k, rfl⟩ | ⟨s, rfl⟩
    · exact ⟨k, rfl, rfl⟩
    · cases hfx
  | strct _ | map _ _ => cases hfx
  | list s e => cases s <;> cases hfx

theorem deref_ok (t : Ty) (hok : t.ok = true) : t.deref.ok = true ∧ t.deref.isPtr = false := by
  cases t with
  | ptr e => rcases Ty.ok_ptr hok with ⟨k, rfl⟩ | ⟨s, rfl⟩ <;> exact ⟨rfl, rfl⟩
  | _ => exact ⟨hok, rfl⟩

theorem tt_string_deref (t : Ty) (hok : t.ok = true) (h : t.tt = .string) :
    t.deref = .base .string ∨ t.deref = .base .binary := by
  -- `t` is a string kind or a pointer to one: every other shape has another tag
  have base : ∀ k : Kind, k.tt = .string → Ty.base k = .base .string ∨ Ty.base k = .base .binary := by
    intro k hk
    cases k with
    | string => exact .inl rfl
    | binary => exact .inr rfl
    | _ => cases hk
  cases t with
  | base k => exact base k h
  | ptr e =>
    rcases Ty.ok_ptr hok with ⟨k, rfl⟩ | ⟨s, rfl⟩
    · exact base k h
    · cases h
  | strct _ | map _ _ => cases h
  | list s e => cases s <;> cases h

theorem hasTy_induct {S : Schema}
    {mv : Ty → Val → Prop} {ml : Ty → List Val → Prop} {me : Ty → Ty → List (Val × Val) → Prop}
    {mf : List Field → List Val → Prop}
    (sc : ∀ (k : Kind) (n : Nat), k ≠ .string → k ≠ .binary → hasTy S (.base k) (.sc n) = true →
      mv (.base k) (.sc n))
    (str : ∀ s : Bytes, mv (.base .string) (.str s))
    (bin : ∀ (n : Bool) (s : Bytes), (!n || s.isEmpty) = true → mv (.base .binary) (.bin n s))
    (nilp : ∀ e : Ty, mv (.ptr e) .nilp)
    (ptr : ∀ (e : Ty) (v : Val), e.isPtr = false → hasTy S e v = true → mv e v → mv (.ptr e) (.ptr v))
    (lst : ∀ (s : Bool) (e : Ty) (n : Bool) (xs : List Val), (!n || xs.isEmpty) = true →
      hasTyList S e xs = true → ml e xs → mv (.list s e) (.lst n xs))
    (mp : ∀ (k v : Ty) (n : Bool) (es : List (Val × Val)), (!n || es.isEmpty) = true →
      hasTyEntries S k v es = true → me k v es → mv (.map k v) (.mp n es))
    (st : ∀ (sid : Nat) (fs : List Val) (h : Bytes), ((S.get sid).hasHolder || h.isEmpty) = true →
      hasTyFields S (S.get sid).fields fs = true → mf (S.get sid).fields fs → mv (.strct sid) (.st fs h))
    (lnil : ∀ e : Ty, ml e [])
    (lcons : ∀ (e : Ty) (x : Val) (r : List Val), hasTy S e x = true → hasTyList S e r = true →
      mv e x → ml e r → ml e (x :: r))
    (enil : ∀ k v : Ty, me k v [])
    (econs : ∀ (k v : Ty) (a b : Val) (r : List (Val × Val)), hasTy S k a = true → hasTy S v b = true →
      hasTyEntries S k v r = true → mv k a → mv v b → me k v r → me k v ((a, b) :: r))
    (fnil : mf [] [])
    (fcons : ∀ (f : Field) (fr : List Field) (x : Val) (xr : List Val), hasTy S f.ty x = true →
      hasTyFields S fr xr = true → mv f.ty x → mf fr xr → mf (f :: fr) (x :: xr)) :
    (∀ (ty : Ty) (v : Val), hasTy S ty v = true → mv ty v) ∧
    (∀ (fs : List Field) (xs : List Val), hasTyFields S fs xs = true → mf fs xs) ∧
    (∀ (k v : Ty) (es : List (Val × Val)), hasTyEntries S k v es = true → me k v es) ∧
    (∀ (e : Ty) (xs : List Val), hasTyList S e xs = true → ml e xs) := by
  apply hasTy.mutual_induct S (fun ty v => hasTy S ty v = true → mv ty v)
    (fun fs xs => hasTyFields S fs xs = true → mf fs xs)
    (fun k v es => hasTyEntries S k v es = true → me k v es)
    (fun e xs => hasTyList S e xs = true → ml e xs)
  -- the cases are the arms of `hasTy` / `hasTyFields` / `hasTyList` / `hasTyEntries` in the order of
  -- Schema.lean; 3, 4, 7, 10, 12, 14, 16 and 19 are the catch-all arms, where the judgement is `false`
  case case1 => exact fun s _ => str s
  case case2 => exact bin
  case case3 => exact fun t ht h => nomatch (hasTy.eq_3 S t ht).symm.trans h
  case case4 => exact fun t ht h => nomatch (hasTy.eq_4 S t ht).symm.trans h
  case case5 => exact fun n h => sc .bool n nofun nofun h
  case case6 => exact fun k n h1 h2 _ h => sc k n h1 h2 h
  case case7 =>
    exact fun t k h1 h2 h3 h4 h5 h6 h => nomatch (hasTy.eq_7 S t k h1 h2 h3 h4 h5 h6).symm.trans h
  case case8 => exact fun e _ => nilp e
  case case9 =>
    intro e v ih h
    simp only [hasTy, Bool.and_eq_true, Bool.not_eq_true'] at h
    exact ptr e v h.1 h.2 (ih h.2)
  case case10 => exact fun t e h1 h2 h => nomatch (hasTy.eq_10 S t e h1 h2).symm.trans h
  case case11 =>
    intro s e n xs ih h
    simp only [hasTy, Bool.and_eq_true] at h
    exact lst s e n xs h.1 h.2 (ih h.2)
  case case12 => exact fun t s e h1 h => nomatch (hasTy.eq_12 S t s e h1).symm.trans h
  case case13 =>
    intro k v n es ih h
    simp only [hasTy, Bool.and_eq_true] at h
    exact mp k v n es h.1 h.2 (ih h.2)
  case case14 => exact fun t k v h1 h => nomatch (hasTy.eq_14 S t k v h1).symm.trans h
  case case15 =>
    intro sid fs h ih ht
    simp only [hasTy, Bool.and_eq_true] at ht
    exact st sid fs h ht.1 ht.2 (ih ht.2)
  case case16 => exact fun t sid h1 h => nomatch (hasTy.eq_16 S t sid h1).symm.trans h
  case case17 => exact fun _ => fnil
  case case18 =>
    intro f fr x xr ihx ihr h
    simp only [hasTyFields, Bool.and_eq_true] at h
    exact fcons f fr x xr h.1 h.2 (ihx h.1) (ihr h.2)
  case case19 => exact fun xs fs h1 h2 h => nomatch (hasTyFields.eq_3 S fs xs h1 h2).symm.trans h
  case case20 => exact fun e _ => lnil e
  case case21 =>
    intro e x r ihx ihr h
    simp only [hasTyList, Bool.and_eq_true] at h
    exact lcons e x r h.1 h.2 (ihx h.1) (ihr h.2)
  case case22 => exact fun k v _ => enil k v
  case case23 =>
    intro k v a b r iha ihb ihr h
    simp only [hasTyEntries, Bool.and_eq_true] at h
    exact econs k v a b r h.1.1 h.1.2 h.2 (iha h.1.1) (ihb h.1.2) (ihr h.2)

/-- the shapes of a well-typed value; the only induction is through a pointer to its pointee -/
theorem hasTy_cases {S : Schema} {mv : Ty → Val → Prop}
    (sc : ∀ (k : Kind) (n : Nat), k ≠ .string → k ≠ .binary → hasTy S (.base k) (.sc n) = true →
      mv (.base k) (.sc n))
    (str : ∀ s : Bytes, mv (.base .string) (.str s))
    (bin : ∀ (n : Bool) (s : Bytes), mv (.base .binary) (.bin n s))
    (nilp : ∀ e : Ty, mv (.ptr e) .nilp)
    (ptr : ∀ (e : Ty) (v : Val), e.isPtr = false → hasTy S e v = true → mv e v → mv (.ptr e) (.ptr v))
    (lst : ∀ (s : Bool) (e : Ty) (n : Bool) (xs : List Val), mv (.list s e) (.lst n xs))
    (mp : ∀ (k v : Ty) (n : Bool) (es : List (Val × Val)), mv (.map k v) (.mp n es))
    (st : ∀ (sid : Nat) (fs : List Val) (h : Bytes), mv (.strct sid) (.st fs h))
    (ty : Ty) (v : Val) (ht : hasTy S ty v = true) : mv ty v :=
  (hasTy_induct (ml := fun _ _ => True) (me := fun _ _ _ => True) (mf := fun _ _ => True)
    (sc := sc) (str := str) (bin := fun n s _ => bin n s) (nilp := nilp) (ptr := ptr)
    (lst := fun s e n xs _ _ _ => lst s e n xs) (mp := fun k v n es _ _ _ => mp k v n es)
    (st := fun sid fs h _ _ _ => st sid fs h)
    (lnil := fun _ => trivial) (lcons := fun _ _ _ _ _ _ _ => trivial)
    (enil := fun _ _ => trivial) (econs := fun _ _ _ _ _ _ _ _ _ _ _ => trivial)
    (fnil := trivial) (fcons := fun _ _ _ _ _ _ _ _ => trivial)).1 ty v ht

theorem typed_induct {S : Schema} (hS : S.ok = true)
    {mv : Ty → Val → Prop} {ml : Ty → List Val → Prop} {me : Ty → Ty → List (Val × Val) → Prop}
    {mf : List Field → List Val → Prop}
    (sc : ∀ (k : Kind) (n : Nat), k ≠ .string → k ≠ .binary → hasTy S (.base k) (.sc n) = true →
      mv (.base k) (.sc n))
    (str : ∀ s : Bytes, mv (.base .string) (.str s))
    (bin : ∀ (n : Bool) (s : Bytes), (!n || s.isEmpty) = true → mv (.base .binary) (.bin n s))
    (nilB : ∀ k : Kind, mv (.ptr (.base k)) .nilp)
    (nilS : ∀ sid : Nat, mv (.ptr (.strct sid)) .nilp)
    (ptr : ∀ (e : Ty) (v : Val), e.ok = true → e.isPtr = false → hasTy S e v = true → mv e v →
      mv (.ptr e) (.ptr v))
    (lst : ∀ (s : Bool) (e : Ty) (n : Bool) (xs : List Val), e.ok = true →
      (!e.isPtr || e.isStructPtr) = true → (!n || xs.isEmpty) = true →
      hasTyList S e xs = true → ml e xs → mv (.list s e) (.lst n xs))
    (mp : ∀ (k v : Ty) (n : Bool) (es : List (Val × Val)),
      (k.ok = true ∧ (!k.isPtr || k.isStructPtr) = true) →
      (v.ok = true ∧ (!v.isPtr || v.isStructPtr) = true) → (!n || es.isEmpty) = true →
      hasTyEntries S k v es = true → me k v es → mv (.map k v) (.mp n es))
    (st : ∀ (sid : Nat) (fs : List Val) (h : Bytes), ((S.get sid).hasHolder || h.isEmpty) = true →
      hasTyFields S (S.get sid).fields fs = true → mf (S.get sid).fields fs → mv (.strct sid) (.st fs h))
    (lnil : ∀ e : Ty, ml e [])
    (lcons : ∀ (e : Ty) (x : Val) (r : List Val), e.ok = true → (!e.isPtr || e.isStructPtr) = true →
      hasTy S e x = true → hasTyList S e r = true → mv e x → ml e r → ml e (x :: r))
    (enil : ∀ k v : Ty, me k v [])
    (econs : ∀ (k v : Ty) (a b : Val) (r : List (Val × Val)),
      (k.ok = true ∧ (!k.isPtr || k.isStructPtr) = true) →
      (v.ok = true ∧ (!v.isPtr || v.isStructPtr) = true) → hasTy S k a = true → hasTy S v b = true →
      hasTyEntries S k v r = true → mv k a → mv v b → me k v r → me k v ((a, b) :: r))
    (fnil : mf [] [])
    (fcons : ∀ (f : Field) (fr : List Field) (x : Val) (xr : List Val), f.ok = true →
      hasTy S f.ty x = true → hasTyFields S fr xr = true → mv f.ty x → mf fr xr → mf (f :: fr) (x :: xr)) :
    (∀ (ty : Ty) (v : Val), ty.ok = true → hasTy S ty v = true → mv ty v) ∧
    (∀ (fs : List Field) (xs : List Val), (∀ f ∈ fs, f.ok = true) → hasTyFields S fs xs = true → mf fs xs) ∧
    (∀ (k v : Ty) (es : List (Val × Val)), (k.ok = true ∧ (!k.isPtr || k.isStructPtr) = true) →
      (v.ok = true ∧ (!v.isPtr || v.isStructPtr) = true) → hasTyEntries S k v es = true → me k v es) ∧
    (∀ (e : Ty) (xs : List Val), e.ok = true → (!e.isPtr || e.isStructPtr) = true →
      hasTyList S e xs = true → ml e xs) := by
  have h := hasTy_induct (S := S)
    (mv := fun ty v => ty.ok = true → mv ty v)
    (mf := fun fs xs => (∀ f ∈ fs, f.ok = true) → mf fs xs)
    (me := fun k v es => (k.ok = true ∧ (!k.isPtr || k.isStructPtr) = true) →
      (v.ok = true ∧ (!v.isPtr || v.isStructPtr) = true) → me k v es)
    (ml := fun e xs => e.ok = true → (!e.isPtr || e.isStructPtr) = true → ml e xs)
    (sc := fun k n h1 h2 h _ => sc k n h1 h2 h)
    (str := fun s _ => str s)
    (bin := fun n s h _ => bin n s h)
    (nilp := fun e hok => by
      rcases Ty.ok_ptr hok with ⟨k, rfl⟩ | ⟨sid, rfl⟩
      · exact nilB k
      · exact nilS sid)
    (ptr := fun e v he hv ih hok =>
      ptr e v (deref_ok (.ptr e) hok).1 he hv (ih (deref_ok (.ptr e) hok).1))
    (lst := fun s e n xs hn ht ih hok =>
      lst s e n xs (Ty.ok_list hok).1 (Ty.ok_list hok).2 hn ht (ih (Ty.ok_list hok).1 (Ty.ok_list hok).2))
    (mp := fun k v n es hn ht ih hok =>
      mp k v n es (Ty.ok_map hok).1 (Ty.ok_map hok).2 hn ht (ih (Ty.ok_map hok).1 (Ty.ok_map hok).2))
    (st := fun sid fs h hh ht ih _ => st sid fs h hh ht (ih (sd_fields_ok hS sid)))
    (lnil := fun e _ _ => lnil e)
    (lcons := fun e x r hx hr ihx ihr hok hp => lcons e x r hok hp hx hr (ihx hok) (ihr hok hp))
    (enil := fun k v _ _ => enil k v)
    (econs := fun k v a b r ha hb hr iha ihb ihr hk hv =>
      econs k v a b r hk hv ha hb hr (iha hk.1) (ihb hv.1) (ihr hk hv))
    (fnil := fun _ => fnil)
    (fcons := fun f fr x xr hx hr ihx ihr hok =>
      have hf := hok f (List.mem_cons_self ..)
      fcons f fr x xr hf hx hr (ihx (Field.ok_ty hf)) (ihr fun g hg => hok g (List.mem_cons_of_mem _ hg)))
  exact ⟨fun ty v hok ht => h.1 ty v ht hok, fun fs xs hok ht => h.2.1 fs xs ht hok,
    fun k v es hk hv ht => h.2.2.1 k v es ht hk hv, fun e xs hok hp ht => h.2.2.2 e xs ht hok hp⟩

end Frugal
