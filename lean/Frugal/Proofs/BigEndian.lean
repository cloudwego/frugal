/-
  The codecs of Basic.lean are written out byte by byte, as the Go code is; `beBytes k` / `rdBE k` say
  the same for `k` bytes: writing then reading is an induction on `k`, reading then writing one on the
  bytes read; the fixed codecs are instances (`rd8_inv` is proved directly).
-/
import Frugal.Basic
namespace Frugal

theorem u8_toNat_self (a : UInt8) : u8 a.toNat = a :=
  UInt8.toNat_inj.1 (by rw [u8_toNat]; exact Nat.mod_eq_of_lt a.toNat_lt)

/-- value of a byte string read most significant byte first -/
def beVal : Bytes → Nat
  | [] => 0
  | a :: r => a.toNat * 256 ^ r.length + beVal r

/-- the `k` low-order bytes of `n`, most significant first -/
def beBytes : Nat → Nat → Bytes
  | 0, _ => []
  | k + 1, n => u8 (n / 256 ^ k) :: beBytes k n

@[simp] theorem beBytes_length : ∀ k n, (beBytes k n).length = k
  | 0, _ => rfl
  | k + 1, n => by rw [beBytes, List.length_cons, beBytes_length k n]

theorem beVal_lt : ∀ bs : Bytes, beVal bs < 256 ^ bs.length
  | [] => Nat.one_pos
  | a :: r => by
    have := beVal_lt r
    have := a.toNat_lt
    rw [beVal, List.length_cons, Nat.pow_succ]
    generalize 256 ^ r.length = M at *
    have : a.toNat * M + M ≤ 255 * M + M := Nat.add_le_add_right (Nat.mul_le_mul_right M (by omega)) M
    omega

theorem beVal_beBytes : ∀ k n, beVal (beBytes k n) = n % 256 ^ k
  | 0, n => by rw [Nat.pow_zero, Nat.mod_one]; rfl
  | k + 1, n => by
    rw [beBytes, beVal, beBytes_length, u8_toNat, beVal_beBytes k n, Nat.pow_succ, Nat.mod_mul,
      Nat.mul_comm, Nat.add_comm]

/-- only the low `bs.length` bytes of the number matter: whatever stands above them (`c`) is dropped -/
theorem beBytes_beVal_add : ∀ (bs : Bytes) (c : Nat), beBytes bs.length (c * 256 ^ bs.length + beVal bs) = bs
  | [], _ => rfl
  | a :: r, c => by
    have e : c * 256 ^ (r.length + 1) + (a.toNat * 256 ^ r.length + beVal r) =
        (c * 256 + a.toNat) * 256 ^ r.length + beVal r := by
      rw [Nat.pow_succ, Nat.add_mul, Nat.mul_assoc, Nat.mul_comm 256, Nat.add_assoc]
    rw [List.length_cons, beVal, beBytes, e, beBytes_beVal_add r, Nat.add_comm,
      Nat.add_mul_div_right _ _ (Nat.pow_pos (by decide)), Nat.div_eq_of_lt (beVal_lt r), Nat.zero_add]
    congr 1
    apply UInt8.toNat_inj.1
    rw [u8_toNat, Nat.add_comm, Nat.add_mul_mod_self_right]
    exact Nat.mod_eq_of_lt a.toNat_lt

def rdBE (k : Nat) (b : Bytes) : Option (Nat × Bytes) :=
  if k ≤ b.length then some (beVal (b.take k), b.drop k) else none

theorem rdBE_beBytes (k n : Nat) (r : Bytes) (h : n < 256 ^ k) : rdBE k (beBytes k n ++ r) = some (n, r) := by
  have hl := beBytes_length k n
  rw [rdBE, if_pos (by rw [List.length_append, hl]; exact Nat.le_add_right ..), List.take_left' hl,
    List.drop_left' hl, beVal_beBytes, Nat.mod_eq_of_lt h]

theorem rdBE_inv {k : Nat} {b r : Bytes} {n : Nat} (h : rdBE k b = some (n, r)) :
    b = beBytes k n ++ r ∧ n < 256 ^ k := by
  unfold rdBE at h
  by_cases hk : k ≤ b.length
  · rw [if_pos hk] at h
    cases h
    have hl : (b.take k).length = k := List.length_take_of_le hk
    have h1 := beBytes_beVal_add (b.take k) 0
    have h2 := beVal_lt (b.take k)
    rw [Nat.zero_mul, Nat.zero_add, hl] at h1
    rw [hl] at h2
    exact ⟨by rw [h1, List.take_append_drop], h2⟩
  · rw [if_neg hk] at h; cases h

theorem rdBE_some {k : Nat} {b : Bytes} (h : k ≤ b.length) :
    ∃ n r, rdBE k b = some (n, r) ∧ r.length + k = b.length :=
  ⟨_, _, if_pos h, by rw [List.length_drop]; omega⟩

/-! the written-out sums are `beVal` of the bytes read: linear arithmetic once `256 ^ i` is evaluated -/

theorem rd8_eq (b : Bytes) : rd8 b = rdBE 1 b := by
  rcases b with _ | ⟨a, r⟩ <;> simp [rd8, rdBE, beVal]

theorem rd16_eq (b : Bytes) : rd16 b = rdBE 2 b := by
  rcases b with _ | ⟨a, _ | ⟨c, r⟩⟩ <;> simp [rd16, rdBE, beVal]

theorem rd32_eq (b : Bytes) : rd32 b = rdBE 4 b := by
  rcases b with _ | ⟨a, _ | ⟨c, _ | ⟨d, _ | ⟨e, r⟩⟩⟩⟩ <;> simp [rd32, rdBE, beVal] <;> omega

theorem rd64_eq (b : Bytes) : rd64 b = rdBE 8 b := by
  rcases b with _ | ⟨a, _ | ⟨c, _ | ⟨d, _ | ⟨e, _ | ⟨f, _ | ⟨g, _ | ⟨i, _ | ⟨j, r⟩⟩⟩⟩⟩⟩⟩⟩ <;>
    simp [rd64, rdBE, beVal] <;> omega

theorem be16_eq (n : Nat) : be16 n = beBytes 2 n := by simp [be16, beBytes]
theorem be32_eq (n : Nat) : be32 n = beBytes 4 n := by simp [be32, beBytes]
theorem be64_eq (n : Nat) : be64 n = beBytes 8 n := by simp [be64, beBytes]

theorem rd8_u8 (n : Nat) (r : Bytes) (h : n < 256) : rd8 (u8 n :: r) = some (n, r) := by
  simp only [rd8, u8_toNat, Nat.mod_eq_of_lt h]

theorem rd16_be16 (n : Nat) (r : Bytes) (h : n < 65536) : rd16 (be16 n ++ r) = some (n, r) := by
  rw [rd16_eq, be16_eq]
  exact rdBE_beBytes 2 n r h

theorem rd32_be32 (n : Nat) (r : Bytes) (h : n < 4294967296) : rd32 (be32 n ++ r) = some (n, r) := by
  rw [rd32_eq, be32_eq]
  exact rdBE_beBytes 4 n r h

theorem rd64_be64 (n : Nat) (r : Bytes) (h : n < 18446744073709551616) :
    rd64 (be64 n ++ r) = some (n, r) := by
  rw [rd64_eq, be64_eq]
  exact rdBE_beBytes 8 n r h

theorem rd8_inv {b r : Bytes} {n : Nat} (h : rd8 b = some (n, r)) : b = u8 n :: r ∧ n < 256 := by
  cases b with
  | nil => cases h
  | cons a t => cases h; exact ⟨by rw [u8_toNat_self], a.toNat_lt⟩

theorem rd16_inv {b r : Bytes} {n : Nat} (h : rd16 b = some (n, r)) : b = be16 n ++ r ∧ n < 65536 := by
  rw [rd16_eq] at h
  rw [be16_eq]
  exact rdBE_inv h

theorem rd32_inv {b r : Bytes} {n : Nat} (h : rd32 b = some (n, r)) : b = be32 n ++ r ∧ n < 4294967296 := by
  rw [rd32_eq] at h
  rw [be32_eq]
  exact rdBE_inv h

theorem rd64_inv {b r : Bytes} {n : Nat} (h : rd64 b = some (n, r)) :
    b = be64 n ++ r ∧ n < 18446744073709551616 := by
  rw [rd64_eq] at h
  rw [be64_eq]
  exact rdBE_inv h

end Frugal
