import Frugal.Proofs.SkipEqns
namespace Frugal

theorem skipStr_ser (s r : Bytes) (h : s.length < 2147483648) :
    skipStr (be32 s.length ++ (s ++ r)) = .ok (4 + s.length) := by
  have hn : ¬ s.length ≥ 2147483648 := by omega
  simp only [skipStr, rd32_be32 s.length (s ++ r) (by omega)]
  simp [hn]

theorem wireFixed_2 : wireFixed 2 = 1 := rfl
theorem wireFixed_3 : wireFixed 3 = 1 := rfl
theorem wireFixed_4 : wireFixed 4 = 8 := rfl
theorem wireFixed_6 : wireFixed 6 = 2 := rfl
theorem wireFixed_8 : wireFixed 8 = 4 := rfl
theorem wireFixed_10 : wireFixed 10 = 8 := rfl
theorem wireFixed_11 : wireFixed 11 = 0 := rfl
theorem wireFixed_12 : wireFixed 12 = 0 := rfl
theorem wireFixed_13 : wireFixed 13 = 0 := rfl
theorem wireFixed_14 : wireFixed 14 = 0 := rfl
theorem wireFixed_15 : wireFixed 15 = 0 := rfl

theorem entries_fixed_len (kt vt : Nat) (hk : wireFixed kt > 0) (hv : wireFixed vt > 0) :
    ∀ es : List (TVal × TVal), wfEntries kt vt es = true →
      (serEntries es).length = es.length * (wireFixed kt + wireFixed vt) ∧ skipNeedEntries es = 0
  | [], _ => by simp [serEntries, skipNeedEntries]
  | (a, b) :: r, hw => by
    simp only [wfEntries, Bool.and_eq_true, beq_iff_eq] at hw
    obtain ⟨⟨⟨⟨rfl, rfl⟩, _⟩, _⟩, ht⟩ := hw
    have ih := entries_fixed_len _ _ hk hv r ht
    simp only [serEntries, List.length_append, List.length_cons, ser_fixed_len a hk, ser_fixed_len b hv, ih.1,
      skipNeedEntries, wireFixed_scalar a hk, wireFixed_scalar b hv, ih.2, ↓reduceIte, Nat.succ_mul]
    exact ⟨by omega, by simp⟩

theorem list_fixed_len (et : Nat) (he : wireFixed et > 0) :
    ∀ xs : List TVal, wfList et xs = true →
      (serList xs).length = xs.length * wireFixed et ∧ skipNeedList xs = 0
  | [], _ => by simp [serList, skipNeedList]
  | x :: r, hw => by
    simp only [wfList, Bool.and_eq_true, beq_iff_eq] at hw
    obtain ⟨⟨rfl, _⟩, ht⟩ := hw
    have ih := list_fixed_len _ he r ht
    simp only [serList, List.length_append, List.length_cons, ser_fixed_len x he, ih.1, skipNeedList,
      wireFixed_scalar x he, ih.2, ↓reduceIte, Nat.succ_mul]
    exact ⟨by omega, by simp⟩

/-- can the skipper get through element `x` with `fuel` levels left?  The depth need is carried as this
    Boolean: on a serialised list each loop returns `if all needOK then .ok length else .err .depth`. -/
def needOK (fuel : Nat) (x : TVal) : Bool := x.isScalarOrStr || decide (skipNeed x ≤ fuel)

theorem need_le_iff (fuel : Nat) (x : TVal) :
    (if x.isScalarOrStr = true then 0 else skipNeed x) ≤ fuel ↔ needOK fuel x = true := by
  unfold needOK
  cases x.isScalarOrStr <;> simp

theorem needList_iff (fuel : Nat) : ∀ xs : List TVal, skipNeedList xs ≤ fuel ↔ xs.all (needOK fuel) = true
  | [] => by simp [skipNeedList]
  | x :: r => by
    have ih := needList_iff fuel r
    simp only [skipNeedList, Nat.max_le, ih, List.all_cons, Bool.and_eq_true, need_le_iff]

theorem needFields_iff (fuel : Nat) :
    ∀ fs : List (Nat × TVal), skipNeedFields fs ≤ fuel ↔ fs.all (fun p => needOK fuel p.2) = true
  | [] => by simp [skipNeedFields]
  | (id, x) :: r => by
    have ih := needFields_iff fuel r
    simp only [skipNeedFields, Nat.max_le, ih, List.all_cons, Bool.and_eq_true, need_le_iff]

theorem needEntries_iff (fuel : Nat) :
    ∀ es : List (TVal × TVal), skipNeedEntries es ≤ fuel ↔
      es.all (fun p => needOK fuel p.1 && needOK fuel p.2) = true
  | [] => by simp [skipNeedEntries]
  | (a, b) :: r => by
    have ih := needEntries_iff fuel r
    simp only [skipNeedEntries, Nat.max_le, ih, List.all_cons, Bool.and_eq_true, need_le_iff]

/-- what `skipElem` returns on the serialisation of one well-formed element -/
def elemResult (fuel : Nat) (x : TVal) : Outcome Nat :=
  if needOK fuel x then .ok (ser x).length else .err .depth

theorem skipElem_ser {P : Params} (hP : P.valid = true) (fuel : Nat) (x : TVal) (r : Bytes) (hw : wf x = true)
    (ih : skipType P fuel x.tag (ser x ++ r) = if skipNeed x ≤ fuel then .ok (ser x).length else .err .depth) :
    skipElem P (skipType P fuel) x.tag (ser x ++ r) = elemResult fuel x := by
  unfold skipElem elemResult needOK
  simp only [Nat.not_le.2 (tag_lt128 x), ↓reduceIte, skipFixed_eq hP x.tag (tag_lt128 x)]
  by_cases hf : wireFixed x.tag > 0
  · simp only [hf, ↓reduceIte, wireFixed_scalar x hf, ser_fixed_len x hf, Bool.true_or]
  · simp only [hf, ↓reduceIte]
    cases x with
    | str s =>
      simp only [wf, decide_eq_true_eq] at hw
      simp [TVal.tag, TVal.isScalarOrStr, ser, List.append_assoc, skipStr_ser s r hw]
    | strct _ | map _ _ _ | set _ _ | list _ _ =>
      simp [TVal.tag, TVal.isScalarOrStr] at ih ⊢
      exact ih
    | _ => simp [TVal.tag, wireFixed] at hf

theorem ser_append_nonempty (x : TVal) (r : Bytes) : (ser x ++ r).isEmpty = false :=
  List.isEmpty_eq_false_iff.2 (List.append_ne_nil_of_left_ne_nil (List.ne_nil_of_length_pos (ser_pos x)) r)

theorem skipNeed_scalar {v : TVal} (h : v.isScalarOrStr = true) : skipNeed v = 1 := by
  cases v <;> first | rfl | cases h

theorem skipType_ser_fixed {P : Params} (hP : P.valid = true) (v : TVal) (hf : wireFixed v.tag > 0)
    (fuel : Nat) (r : Bytes) :
    skipType P (fuel + 1) v.tag (ser v ++ r) = if skipNeed v ≤ fuel + 1 then .ok (ser v).length else .err .depth := by
  rw [skipType_fixed hP fuel _ (tag_lt128 v) hf, List.length_append, ser_fixed_len v hf,
    if_neg (by omega), skipNeed_scalar (wireFixed_scalar v hf), if_pos (by omega)]

theorem skipList_ser {P : Params} (hP : P.valid = true) (fuel et : Nat) (xs : List TVal) (r : Bytes)
    (he : et < 128) (hn : xs.length < 2147483648) (hl : wfList et xs = true)
    (hloop : skipListLoop P (skipType P fuel) et xs.length (serList xs ++ r) 5 =
      if xs.all (needOK fuel) = true then .ok (5 + (serList xs).length) else .err .depth) :
    skipList P (skipType P fuel) (u8 et :: (be32 xs.length ++ (serList xs ++ r))) =
      if skipNeedList xs + 1 ≤ fuel + 1 then .ok (5 + (serList xs).length) else .err .depth := by
  simp only [skipList, rd8_u8 et _ (by omega : et < 256), rd32_be32 xs.length _ (by omega : xs.length < 4294967296)]
  rw [if_neg (by omega), if_neg (by omega), skipFixed_eq hP et he]
  by_cases hfast : wireFixed et > 0
  · obtain ⟨e1, e2⟩ := list_fixed_len et hfast xs hl
    rw [if_pos hfast, if_neg (by rw [List.length_append, e1]; omega), e1, e2, if_pos (by omega)]
  · rw [if_neg hfast, hloop]
    exact ite_cond_congr (propext (by rw [← needList_iff]; omega))

theorem elemResult_bind (fuel : Nat) (x : TVal) (f : Nat → Outcome Nat) :
    (elemResult fuel x).bind f = if needOK fuel x = true then f (ser x).length else .err .depth := by
  unfold elemResult
  cases needOK fuel x <;> rfl

theorem ite_ite_and {α : Type} (a b : Bool) (x e : α) :
    (if a = true then (if b = true then x else e) else e) = if (a && b) = true then x else e := by
  cases a <;> cases b <;> rfl

mutual
theorem skipType_ser {P : Params} (hP : P.valid = true) :
    ∀ (v : TVal) (fuel : Nat) (r : Bytes), wf v = true →
      skipType P fuel v.tag (ser v ++ r) = if skipNeed v ≤ fuel then .ok (ser v).length else .err .depth
  | v, 0, r, _ => by
    have : ¬ skipNeed v ≤ 0 := by cases v <;> simp [skipNeed]
    rw [skipType_zero, if_neg this]
  | .bool _, fuel + 1, r, _ | .i8 _, fuel + 1, r, _ | .double _, fuel + 1, r, _ | .i16 _, fuel + 1, r, _
  | .i32 _, fuel + 1, r, _ | .i64 _, fuel + 1, r, _ => skipType_ser_fixed hP _ (of_decide_eq_true rfl) fuel r
  | .str s, fuel + 1, r, hw => by
    simp only [wf, decide_eq_true_eq] at hw
    rw [show (TVal.str s).tag = 11 from rfl, skipType_var hP fuel _ (by decide) (by decide), if_pos rfl, ser,
      List.append_assoc, skipStr_ser s r hw, List.length_append, be32_length, skipNeed_scalar (v := .str s) rfl,
      if_pos (by omega)]
  | .strct fs, fuel + 1, r, hw => by
    have hl := serFields_len fs
    have hloop := skipStructLoop_ser hP fs fuel ((serFields fs ++ 0 :: r).length + 1) r 0 hw
      (by simp only [List.length_append]; omega)
    have e : ser (.strct fs) ++ r = serFields fs ++ 0 :: r := by simp [ser]
    have hlen : (ser (.strct fs)).length = 0 + (serFields fs).length + 1 := by simp [ser]
    rw [e, show (TVal.strct fs).tag = 12 from rfl, skipType_var hP fuel _ (by decide) (by decide),
      if_neg (by decide), if_neg (by decide), if_neg (by decide), if_pos rfl, hloop, hlen]
    exact ite_cond_congr (propext (by rw [← needFields_iff]; simp only [skipNeed]; omega))
  | .map kt vt es, fuel + 1, r, hw => by
    simp only [wf, Bool.and_eq_true, decide_eq_true_eq] at hw
    obtain ⟨⟨⟨hk, hv⟩, hn⟩, he⟩ := hw
    have hk8 := codeOK_lt hk
    have hv8 := codeOK_lt hv
    have e : ser (.map kt vt es) ++ r = u8 kt :: u8 vt :: (be32 es.length ++ (serEntries es ++ r)) := by
      simp [ser]
    have hlen : (ser (.map kt vt es)).length = 6 + (serEntries es).length := by simp [ser]; omega
    rw [e, show (TVal.map kt vt es).tag = 13 from rfl, skipType_var hP fuel _ (by decide) (by decide),
      if_neg (by decide), if_pos rfl]
    simp only [skipMap, rd8_u8 kt _ (by omega : kt < 256), rd8_u8 vt _ (by omega : vt < 256),
      rd32_be32 es.length _ (by omega : es.length < 4294967296)]
    rw [if_neg (by omega), if_neg (by omega), skipFixed_eq hP kt hk8, skipFixed_eq hP vt hv8, hlen]
    by_cases hfast : wireFixed kt > 0 ∧ wireFixed vt > 0
    · obtain ⟨e1, e2⟩ := entries_fixed_len kt vt hfast.1 hfast.2 es he
      have hneed : skipNeed (.map kt vt es) ≤ fuel + 1 := by simp only [skipNeed, e2]; omega
      rw [if_pos hfast, if_pos hneed, e1, if_neg (by rw [List.length_append, e1]; omega)]
    · rw [if_neg hfast, skipMapLoop_ser hP es fuel kt vt r 6 he]
      exact ite_cond_congr (propext (by rw [← needEntries_iff]; simp only [skipNeed]; omega))
  | .set et xs, fuel + 1, r, hw | .list et xs, fuel + 1, r, hw => by
    simp only [wf, Bool.and_eq_true, decide_eq_true_eq] at hw
    obtain ⟨⟨he, hn⟩, hl⟩ := hw
    simp only [ser, TVal.tag, List.cons_append, List.append_assoc, List.length_cons, List.length_append, be32_length]
    rw [skipType_var hP fuel _ (by decide) (by decide), if_neg (by decide), if_neg (by decide), if_pos (by decide),
      skipNeed, show 4 + (serList xs).length + 1 = 5 + (serList xs).length by omega]
    exact skipList_ser hP fuel et xs r (codeOK_lt he) hn hl (skipListLoop_ser hP xs fuel et r 5 hl)
termination_by structural v => v
theorem skipStructLoop_ser {P : Params} (hP : P.valid = true) :
    ∀ (fs : List (Nat × TVal)) (fuel cnt : Nat) (r : Bytes) (i : Nat), wfFields fs = true → fs.length < cnt →
      skipStructLoop P (skipType P fuel) cnt (serFields fs ++ 0 :: r) i =
        if fs.all (fun p => needOK fuel p.2) = true then .ok (i + (serFields fs).length + 1) else .err .depth
  | [], fuel, cnt + 1, r, i, _, _ => rfl
  | (id, v) :: t, fuel, cnt + 1, r, i, hw, hc => by
    simp only [wfFields, Bool.and_eq_true, decide_eq_true_eq] at hw
    obtain ⟨⟨hid, hv⟩, ht⟩ := hw
    simp only [List.length_cons] at hc
    have e1 := skipElem_ser hP fuel v (serFields t ++ 0 :: r) hv (skipType_ser hP v fuel _ hv)
    simp only [serFields, List.cons_append, List.append_assoc]
    rw [skipStructLoop_succ, if_neg (u8_tag_ne_zero v), u8_tag_toNat, List.drop_left' (be16_length _),
      ser_append_nonempty, if_neg Bool.false_ne_true, e1, elemResult_bind, List.drop_left,
      skipStructLoop_ser hP t fuel cnt r _ ht (by omega), ite_ite_and, List.all_cons]
    simp only [List.length_cons, List.length_append, be16_length]
    congr 2
    omega
termination_by structural fs => fs
theorem skipListLoop_ser {P : Params} (hP : P.valid = true) :
    ∀ (xs : List TVal) (fuel et : Nat) (r : Bytes) (i : Nat), wfList et xs = true →
      skipListLoop P (skipType P fuel) et xs.length (serList xs ++ r) i =
        if xs.all (needOK fuel) = true then .ok (i + (serList xs).length) else .err .depth
  | [], fuel, et, r, i, _ => rfl
  | x :: t, fuel, et, r, i, hw => by
    simp only [wfList, Bool.and_eq_true, beq_iff_eq] at hw
    obtain ⟨⟨rfl, hx⟩, ht⟩ := hw
    have e1 := skipElem_ser hP fuel x (serList t ++ r) hx (skipType_ser hP x fuel _ hx)
    rw [List.length_cons, serList, List.append_assoc, skipListLoop_succ, ser_append_nonempty,
      if_neg Bool.false_ne_true, e1, elemResult_bind, List.drop_left, skipListLoop_ser hP t fuel _ r _ ht,
      ite_ite_and, List.all_cons, List.length_append, Nat.add_assoc]
termination_by structural xs => xs
theorem skipMapLoop_ser {P : Params} (hP : P.valid = true) :
    ∀ (es : List (TVal × TVal)) (fuel kt vt : Nat) (r : Bytes) (i : Nat), wfEntries kt vt es = true →
      skipMapLoop P (skipType P fuel) kt vt es.length (serEntries es ++ r) i =
        if es.all (fun p => needOK fuel p.1 && needOK fuel p.2) = true then .ok (i + (serEntries es).length)
        else .err .depth
  | [], fuel, kt, vt, r, i, _ => rfl
  | (a, b) :: t, fuel, kt, vt, r, i, hw => by
    simp only [wfEntries, Bool.and_eq_true, beq_iff_eq] at hw
    obtain ⟨⟨⟨⟨rfl, rfl⟩, ha⟩, hb⟩, ht⟩ := hw
    have ea := skipElem_ser hP fuel a (ser b ++ (serEntries t ++ r)) ha (skipType_ser hP a fuel _ ha)
    have eb := skipElem_ser hP fuel b (serEntries t ++ r) hb (skipType_ser hP b fuel _ hb)
    rw [List.length_cons, serEntries, List.append_assoc, List.append_assoc, skipMapLoop_succ, ser_append_nonempty,
      if_neg Bool.false_ne_true, ea, elemResult_bind, List.drop_left, ser_append_nonempty, if_neg Bool.false_ne_true,
      eb, elemResult_bind, List.drop_left, skipMapLoop_ser hP t fuel _ _ r _ ht, ite_ite_and, ite_ite_and,
      List.all_cons, List.length_append, List.length_append, Bool.and_assoc]
    simp only [Nat.add_assoc]
termination_by structural es => es
end

end Frugal
