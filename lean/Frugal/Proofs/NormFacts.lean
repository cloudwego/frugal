/- a map with pairwise distinct keys comes back with its entries in iteration order; `rtSideB` decides a
   sufficient condition for `Schema.rtSide` -/
import Frugal.Norm
import Frugal.Proofs.ToWire  -- for the equation lemmas of `norm` & co. made below it: cheaper than making them again
namespace Frugal

/-- outside 32 bits only the low 32 bits survive (the documented limit of C01) -/
theorem normScalar_enum_general (n : Nat) : normScalar .enum n = sext32to64 (n % 4294967296) := by
  simp [normScalar]

theorem normList_eq_map (S : Schema) (e : Ty) : ∀ xs : List Val,
    normList S e xs = xs.map (fun x => norm S e x (zeroVal S S.length e))
  | [] => rfl
  | x :: r => by simp [normList, normList_eq_map S e r]

theorem normList_length (S : Schema) (e : Ty) (xs : List Val) : (normList S e xs).length = xs.length := by
  simp [normList_eq_map]

theorem normFields_length (S : Schema) (sd : SDesc) : ∀ (fs : List Field) (xs ds : List Val),
    (normFields S sd fs xs ds).length = ds.length
  | [], _, _ => by simp [normFields]
  | _ :: _, [], _ | _ :: _, _ :: _, [] => rfl
  | f :: fr, x :: xr, d :: dr => congrArg Nat.succ (normFields_length S sd fr xr dr)

theorem mapInsert_fresh (kt : Ty) : ∀ (acc : List (Val × Val)) (k v : Val),
    (∀ p ∈ acc, keyEq kt p.1 k = false) → mapInsert kt acc k v = acc ++ [(k, v)]
  | [], _, _, _ => rfl
  | (a, b) :: r, k, v, h => by
    have ha := h (a, b) (List.mem_cons_self ..)
    simp only [mapInsert, ha, Bool.false_eq_true, ↓reduceIte, List.cons_append]
    rw [mapInsert_fresh kt r k v (fun p hp => h p (List.mem_cons_of_mem _ hp))]

/-- the keys of a map's entries as they come back from a round trip -/
def normKeys (S : Schema) (k : Ty) (es : List (Val × Val)) : List Val :=
  es.map fun p => norm S k p.1 (zeroVal S S.length k)

theorem normEntries_distinct (S : Schema) (k v : Ty) : ∀ (es acc : List (Val × Val)),
    ((acc.map (·.1)) ++ normKeys S k es).Pairwise (fun a b => keyEq k a b = false) →
    normEntries S k v es acc =
      acc ++ es.map fun p => (norm S k p.1 (zeroVal S S.length k), norm S v p.2 (zeroVal S S.length v))
  | [], acc, _ => (List.append_nil acc).symm
  | (a, b) :: r, acc, h => by
    simp only [normEntries]
    have hfresh : ∀ p ∈ acc, keyEq k p.1 (norm S k a (zeroVal S S.length k)) = false := fun p hp =>
      (List.pairwise_append.1 h).2.2 p.1 (List.mem_map_of_mem hp) _ (by simp [normKeys])
    rw [mapInsert_fresh k acc _ _ hfresh, normEntries_distinct S k v r]
    · simp
    · simpa [normKeys, List.map_append] using h

def distinctIdsB : List Field → Bool
  | [] => true
  | f :: r => r.all (fun g => f.id != g.id) && distinctIdsB r

theorem distinctIdsB_pairwise : ∀ fs : List Field, distinctIdsB fs = true →
    fs.Pairwise (fun a b => a.id ≠ b.id)
  | [], _ => List.Pairwise.nil
  | f :: r, h => by
    simp only [distinctIdsB, Bool.and_eq_true, List.all_eq_true, bne_iff_ne, ne_eq] at h
    exact List.pairwise_cons.2 ⟨h.1, distinctIdsB_pairwise r h.2⟩

/-- decidable and sufficient for `Schema.rtSide`: distinct ids, no `nocopy`, typed declared defaults, typed zero structs -/
def Schema.rtSideB (S : Schema) : Bool :=
  S.all (fun sd =>
    distinctIdsB sd.fields &&
    sd.fields.all (fun f => !f.nocopy &&
      (!f.assigned || match f.dflt with
        | some d => hasTy S f.ty d
        | none => true))) &&
  (List.range S.length).all (fun sid => hasTy S (.strct sid) (zeroVal S S.length (.strct sid)))

theorem get_oob (S : Schema) (sid : Nat) (h : S.length ≤ sid) : S.get sid = { fields := [] } := by
  simp [Schema.get, List.getD_eq_getElem?_getD, List.getElem?_eq_none h]

theorem get_mem (S : Schema) (sid : Nat) (h : sid < S.length) : S.get sid ∈ S := by
  simp only [Schema.get, List.getD_eq_getElem?_getD, List.getElem?_eq_getElem h, Option.getD_some]
  exact List.getElem_mem h

theorem rtSide_of_rtSideB (S : Schema) (h : S.rtSideB = true) : S.rtSide := by
  simp only [Schema.rtSideB, Bool.and_eq_true, List.all_eq_true, Bool.or_eq_true,
    Bool.not_eq_true', List.mem_range] at h
  obtain ⟨h1, h2⟩ := h
  have key : ∀ sid, S.length ≤ sid ∨ S.get sid ∈ S := fun sid => by
    by_cases hs : sid < S.length
    · exact Or.inr (get_mem S sid hs)
    · exact Or.inl (by omega)
  constructor
  · intro sid
    rcases key sid with ho | hm
    · rw [get_oob S sid ho]
      exact List.Pairwise.nil
    · exact distinctIdsB_pairwise _ (h1 _ hm).1
  · intro sid f hf
    rcases key sid with ho | hm
    · rw [get_oob S sid ho] at hf
      cases hf
    · exact ((h1 _ hm).2 f hf).1
  · intro sid f hf ha d hd
    rcases key sid with ho | hm
    · rw [get_oob S sid ho] at hf
      cases hf
    · rcases ((h1 _ hm).2 f hf).2 with h' | h'
      · rw [ha] at h'
        cases h'
      · simpa [hd] using h'
  · intro sid
    by_cases hs : sid < S.length
    · exact h2 sid hs
    · have ho : S.length ≤ sid := by omega
      cases hl : S.length <;> simp [zeroVal, hasTy, hasTyFields, get_oob S sid ho]

end Frugal
