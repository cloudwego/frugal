/- Decoder and reader are compared through their equations in `bind` / `mapv` form (DecodeEqns, ReaderInd). -/
import Frugal.Proofs.SkipCorrect
import Frugal.Proofs.DecodeEqns
import Frugal.Proofs.ReaderProps
import Frugal.Proofs.TypedInduct
namespace Frugal
open Outcome

theorem decodeFixed_ser (t : TT) (tv : TVal) (r : Bytes) (hf : specFixed t > 0) (hw : wf tv = true)
    (ht : tv.tag = t.wire) :
    decodeFixed t (ser tv ++ r) = (readFixed t tv).mapv (·, r) ∧ (ser tv).length = specFixed t := by
  have hfw : wireFixed tv.tag > 0 := by rw [ht, wire_of_fixed t hf]; exact hf
  obtain ⟨n, e⟩ := eq_scalarTV hfw
  obtain ⟨_, h2, h3⟩ := scalarTV_spec hfw n
  rw [ht] at e
  rw [ht, wire_of_fixed t hf] at h2 h3
  rw [e] at hw ⊢
  rw [h3, decide_eq_true_eq] at hw
  rw [h2, decodeFixed_eq t hf, rdBE_beBytes _ n r hw, readFixed_scalarTV t hf, beBytes_length]
  exact ⟨rfl, rfl⟩

theorem decodeStr_ser (isBin nocopy : Bool) (total : Nat) (s r : Bytes) (hw : s.length < 2147483648) :
    decodeStr isBin nocopy total (ser (.str s) ++ r) =
      (readStr isBin nocopy total r.length (.str s)).mapv (·, r) := by
  have hn : ¬ s.length ≥ 2147483648 := by omega
  simp only [decodeStr, ser, List.append_assoc, rd32_be32 s.length (s ++ r) (by omega), hn, ↓reduceIte, readStr]
  by_cases h0 : s.length = 0
  · obtain rfl := List.eq_nil_of_length_eq_zero h0
    simp [Outcome.mapv]
  · simp only [h0, ↓reduceIte, List.take_left', List.drop_left', List.length_append, Outcome.mapv]
    simp

theorem decodeSlot_ser {P : Params} (hP : P.valid = true) (S : Schema) (total fuel : Nat) (g : Bool) (t : Ty)
    (x : TVal) (r : Bytes) (slot : Val) (hw : wf x = true) (ht : x.tag = t.wire)
    (hdt : specFixed t.tt = 0 →
      decodeType P S total fuel t.deref (ser x ++ r) (freshTarget S t slot) =
        (readVal P S total fuel t.deref x r.length (freshTarget S t slot)).mapv (·, r)) :
    decodeSlot P S (decodeType P S total fuel) g t (ser x ++ r) slot =
      (readSlot P S total fuel t x r.length slot).mapv (·, r) := by
  rw [decodeSlot_eq, readSlot_eq, fixed_eq hP]
  by_cases hf : specFixed t.tt > 0
  · obtain ⟨e, hl⟩ := decodeFixed_ser t.tt x r hf hw ht
    have hg : ¬ ((g && decide ((ser x ++ r).length < specFixed t.tt)) = true) := by
      simp only [List.length_append, Bool.and_eq_true, decide_eq_true_eq]; omega
    rw [if_pos hf, if_pos hf, if_neg hg, e, mapv_mapv, mapv_mapv]
    rfl
  · rw [if_neg hf, if_neg hf, hdt (by omega), mapv_mapv, mapv_mapv]
    rfl

/-- the decoder agrees with the reader on `tv` for every budget, type, rest of the input and destination:
    `refines_all` is then an induction over the message alone -/
def Refines (P : Params) (S : Schema) (total : Nat) (tv : TVal) : Prop :=
  ∀ (fuel : Nat) (t : Ty) (r : Bytes) (dest : Val), wf tv = true → tv.tag = t.wire →
    decodeType P S total fuel t (ser tv ++ r) dest = (readVal P S total fuel t tv r.length dest).mapv (·, r)

theorem refines_zero (P : Params) (S : Schema) (total : Nat) (tv : TVal) (t : Ty) (r : Bytes) (dest : Val) :
    decodeType P S total 0 t (ser tv ++ r) dest = (readVal P S total 0 t tv r.length dest).mapv (·, r) := by
  rw [decodeType_zero, readVal_zero]
  rfl

theorem refines_scalar {P : Params} (hP : P.valid = true) (S : Schema) (total : Nat) (tv : TVal)
    (hs : wireFixed tv.tag > 0) : Refines P S total tv := by
  intro fuel t r dest hw ht
  cases fuel with
  | zero => exact refines_zero P S total tv t r dest
  | succ fuel =>
    have hf : specFixed t.tt > 0 := fixed_of_wire t (by rw [← ht]; exact hs)
    obtain ⟨e, hl⟩ := decodeFixed_ser t.tt tv r hf hw ht
    rw [readVal_fixed P S total hf, decodeType_succ, fixed_eq hP, if_pos hf,
      if_neg (by rw [List.length_append]; omega), e]

/-- a pointer node of variable size: `decodeType` and the reader both reject it -/
theorem refines_ptr {P : Params} (hP : P.valid = true) (S : Schema) (total fuel : Nat) (e : Ty) (tv : TVal)
    (r : Bytes) (dest : Val) (h0 : ¬ specFixed (Ty.ptr e).tt > 0) :
    decodeType P S total (fuel + 1) (.ptr e) (ser tv ++ r) dest =
      (readVal P S total (fuel + 1) (.ptr e) tv r.length dest).mapv (·, r) := by
  rw [decodeType_succ, fixed_eq hP, if_neg h0, readVal_ptr P S total h0]
  rfl

/-- the frame of the variable-size cases: at budget 0 decoder and reader answer alike, above it the
    node's tag is the one the value's wire code belongs to -/
theorem refines_var {P : Params} (S : Schema) (total : Nat) {tv : TVal} {c : TT} (hc : 11 ≤ c.wire)
    (htag : tv.tag = c.wire)
    (h : ∀ (fuel : Nat) (t : Ty) (r : Bytes) (dest : Val), wf tv = true → t.tt = c →
      decodeType P S total (fuel + 1) t (ser tv ++ r) dest =
        (readVal P S total (fuel + 1) t tv r.length dest).mapv (·, r)) : Refines P S total tv := by
  intro fuel t r dest hw ht
  cases fuel with
  | zero => exact refines_zero P S total tv t r dest
  | succ fuel => exact h fuel t r dest hw (tt_of_wire (by rw [← ht, htag]) hc)

theorem refines_str {P : Params} (hP : P.valid = true) (S : Schema) (total : Nat) (s : Bytes) :
    Refines P S total (.str s) :=
  refines_var S total (c := .string) (by decide) rfl fun fuel t r dest hw htt => by
    simp only [wf, decide_eq_true_eq] at hw
    match t, htt with
    | .base k, htt =>
      rw [decodeType_succ, fixed_eq hP, if_neg (by rw [htt]; decide), readVal_str P S total htt]
      simp only
      rw [if_pos (by rw [htt]; rfl)]
      exact decodeStr_ser _ _ _ _ _ hw
    | .ptr e, htt => exact refines_ptr hP S total fuel e _ r dest (by rw [htt]; decide)

theorem listLoop_ser {P : Params} (hP : P.valid = true) (S : Schema) (total : Nat) (fuel : Nat) (et : Ty) (g : Bool) :
    ∀ (xs : List TVal) (r : Bytes), (∀ x ∈ xs, Refines P S total x) → wfList et.wire xs = true →
      listLoop (fun bb => decodeSlot P S (decodeType P S total fuel) g et bb (zeroVal S S.length et))
        xs.length (serList xs ++ r) = (readList P S total fuel et xs r.length).mapv (·, r)
  | [], r, _, _ => by rw [readList_nil]; rfl
  | x :: t, r, hall, hw => by
    simp only [wfList, Bool.and_eq_true, beq_iff_eq] at hw
    obtain ⟨⟨hxt, hx⟩, ht⟩ := hw
    have hslot := decodeSlot_ser hP S total fuel g et x (serList t ++ r) (zeroVal S S.length et) hx hxt
      (fun _ => hall x (List.mem_cons_self ..) fuel et.deref (serList t ++ r) _ hx (by rw [Ty.deref_wire]; exact hxt))
    have ih := listLoop_ser hP S total fuel et g t r (fun y hy => hall y (List.mem_cons_of_mem _ hy)) ht
    rw [List.length_append] at hslot
    rw [List.length_cons, serList, List.append_assoc, listLoop_succ, hslot, readList_cons, bind_mapv, mapv_bind]
    simp only [ih, mapv_mapv]
    rfl

theorem mapLoop_ser {P : Params} (hP : P.valid = true) (S : Schema) (total : Nat) (fuel : Nat) (kt vt : Ty) :
    ∀ (es : List (TVal × TVal)) (r : Bytes) (acc : List (Val × Val)),
      (∀ p ∈ es, Refines P S total p.1 ∧ Refines P S total p.2) → wfEntries kt.wire vt.wire es = true →
      mapLoop kt
        (fun bb => decodeSlot P S (decodeType P S total fuel) true kt bb (zeroVal S S.length kt))
        (fun bb => decodeSlot P S (decodeType P S total fuel) true vt bb (zeroVal S S.length vt))
        es.length (serEntries es ++ r) acc = (readEntries P S total fuel kt vt es r.length acc).mapv (·, r)
  | [], r, acc, _, _ => by rw [readEntries_nil]; rfl
  | (a, b) :: t, r, acc, hall, hw => by
    simp only [wfEntries, Bool.and_eq_true, beq_iff_eq] at hw
    obtain ⟨⟨⟨⟨hkt, hvt⟩, ha⟩, hb⟩, ht⟩ := hw
    have hab := hall (a, b) (List.mem_cons_self ..)
    have hsa := decodeSlot_ser hP S total fuel true kt a (ser b ++ (serEntries t ++ r)) (zeroVal S S.length kt) ha hkt
      (fun _ => hab.1 fuel kt.deref _ _ ha (by rw [Ty.deref_wire]; exact hkt))
    have hsb := decodeSlot_ser hP S total fuel true vt b (serEntries t ++ r) (zeroVal S S.length vt) hb hvt
      (fun _ => hab.2 fuel vt.deref _ _ hb (by rw [Ty.deref_wire]; exact hvt))
    have ih := fun acc' => mapLoop_ser hP S total fuel kt vt t r acc'
      (fun y hy => hall y (List.mem_cons_of_mem _ hy)) ht
    simp only [List.length_append] at hsa hsb
    rw [List.length_cons, serEntries, List.append_assoc, List.append_assoc, mapLoop_succ, hsa, readEntries_cons,
      bind_mapv, mapv_bind]
    simp only [hsb, bind_mapv, mapv_bind, ih]

theorem count_fits {n per : Nat} {s : Bytes} (r : Bytes) (hper : 0 < per) (h : n * per ≤ s.length) :
    ¬ n > (s ++ r).length / per :=
  Nat.not_lt.2 ((Nat.le_div_iff_mul_le hper).mpr (by simp only [List.length_append]; omega))

theorem decodeField_ser {P : Params} (hP : P.valid = true) (S : Schema) (total fuel : Nat) (f : Field) (v : TVal)
    (rest : Bytes) (slot : Val) (hfok : f.ok = true) (hv : wf v = true) (hwire : f.ty.wire = v.tag)
    (hrv : Refines P S total v) :
    decodeField P S total (decodeType P S total fuel) f (ser v ++ rest) slot =
      (readField P S total fuel f v rest.length slot).mapv (·, rest) := by
  rw [decodeField_eq, readField_eq, fixed_eq hP]
  by_cases hnc : specFixed f.ty.tt = 0 ∧ f.nocopy = true
  · -- a nocopy field is a string, so the value on the wire is one
    have hv11 : v.tag = 11 := by rw [← hwire, Ty.wire, Field.nocopy_string hfok hnc.2]; rfl
    rw [if_pos (by simpa using hnc), if_pos hnc, nocopy_isBinary hP]
    cases v with
    | str s =>
      simp only [wf, decide_eq_true_eq] at hv
      rw [decodeStr_ser _ _ _ _ _ hv, mapv_mapv, mapv_mapv]
      rfl
    | _ => cases hv11
  · rw [if_neg (by simpa using hnc), if_neg hnc]
    exact decodeSlot_ser hP S total fuel true f.ty v rest slot hv hwire.symm
      (fun _ => hrv fuel f.ty.deref _ _ hv (by rw [Ty.deref_wire]; exact hwire.symm))

theorem skipUnknown_ser {P : Params} (hP : P.valid = true) (v : TVal) (r : Bytes) (hw : wf v = true) :
    skipUnknown P v.tag (ser v ++ r) = if skipNeed v ≤ P.skipDepth then .ok (ser v).length else .err .depth := by
  unfold skipUnknown skipM
  rw [ser_append_nonempty, if_neg Bool.false_ne_true, skipType_ser hP v P.skipDepth r hw]
  by_cases h : skipNeed v ≤ P.skipDepth
  · rw [if_pos h]
  · rw [if_neg h]
    rfl

theorem fieldLoop_ser {P : Params} (hP : P.valid = true) (S : Schema) (total : Nat) (fuel : Nat) (sd : SDesc)
    (hsd : sd.ok = true) :
    ∀ (fs : List (Nat × TVal)) (cnt : Nat) (r : Bytes) (st : LoopSt), (∀ p ∈ fs, Refines P S total p.2) →
      wfFields fs = true → fs.length < cnt →
      fieldLoop P S sd total (decodeType P S total fuel) cnt (serFields fs ++ 0 :: r) st =
        (readFields P S total fuel sd fs (r.length + 1) st).mapv (·, r)
  | [], cnt + 1, r, st, _, _, _ => by
    rw [readFields_nil, serFields, List.nil_append, fieldLoop_succ, if_pos rfl]
    rfl
  | (id, v) :: t, cnt + 1, r, st, hall, hw, hc => by
    simp only [wfFields, Bool.and_eq_true, decide_eq_true_eq] at hw
    obtain ⟨⟨hid, hv⟩, ht⟩ := hw
    simp only [List.length_cons] at hc
    have ih := fun st' => fieldLoop_ser hP S total fuel sd hsd t cnt r st'
      (fun y hy => hall y (List.mem_cons_of_mem _ hy)) ht (by omega)
    simp only [serFields, List.cons_append, List.append_assoc]
    rw [fieldLoop_succ, if_neg (u8_tag_ne_zero v), rd16_be16 id _ hid, u8_tag_toNat]
    simp only
    cases hk : lookupKnown sd id v.tag with
    | none =>
      rw [readFields_unknown P S total hk, skipUnknown_ser hP v _ hv]
      by_cases hdeep : skipNeed v > P.skipDepth
      · rw [if_neg (by omega), if_pos hdeep]
        rfl
      · rw [if_pos (by omega), if_neg hdeep]
        simp only [Outcome.bind, List.drop_left, List.take_left' (be16_length _), List.take_left', serField,
          List.cons_append, ih]
    | some p =>
      obtain ⟨ix, f⟩ := p
      have hfield := decodeField_ser hP S total fuel f v (serFields t ++ 0 :: r) (st.fs.getD ix default)
        (List.all_eq_true.1 hsd f (lookupKnown_mem _ _ _ _ _ hk)) hv (lookupKnown_getElem _ _ _ _ _ hk).2
        (hall (id, v) (List.mem_cons_self ..))
      simp only [List.length_append, List.length_cons] at hfield
      simp only
      rw [readFields_known P S total hk, hfield, bind_mapv, mapv_bind]
      simp only [ih]

theorem decodeStruct_of_fieldLoop (P : Params) (S : Schema) (total f sid : Nat) (fs : List (Nat × TVal)) (r : Bytes)
    (hloop : ∀ vs : List Val,
      fieldLoop P S (S.get sid) total (decodeType P S total f) ((serFields fs ++ 0 :: r).length + 1)
        (serFields fs ++ 0 :: r) { fs := vs } =
        (readFields P S total f (S.get sid) fs (r.length + 1) { fs := vs }).mapv (·, r)) (dest : Val) :
    decodeStruct P S total (f + 1) sid (serFields fs ++ 0 :: r) dest =
      (readStruct P S total (f + 1) sid fs r.length dest).mapv (·, r) := by
  cases dest with
  | st vs h =>
    rw [decodeStruct_st, readStruct_st, hloop vs, bind_mapv, mapv_bind]
    congr 1
    funext st
    cases firstMissing (S.get sid).fields st.seen <;> rfl
  | _ =>
    rw [decodeStruct_nonst _ _ _ _ _ _ _ (by intro _ _ h; cases h),
      readStruct_nonst _ _ _ _ _ _ _ _ (by intro _ _ h; cases h)]
    rfl

theorem decodeStruct_ser {P : Params} (hP : P.valid = true) (S : Schema) (hS : S.ok = true) (total fuel sid : Nat)
    (fs : List (Nat × TVal)) (r : Bytes) (dest : Val) (hall : ∀ p ∈ fs, Refines P S total p.2)
    (hw : wfFields fs = true) :
    decodeStruct P S total fuel sid (serFields fs ++ 0 :: r) dest =
      (readStruct P S total fuel sid fs r.length dest).mapv (·, r) := by
  cases fuel with
  | zero => rw [decodeStruct_zero, readStruct_zero]; rfl
  | succ f =>
    have hl := serFields_len fs
    exact decodeStruct_of_fieldLoop P S total f sid fs r
      (fun vs => fieldLoop_ser hP S total f (S.get sid) (List.all_eq_true.2 (sd_fields_ok hS sid)) fs _ r
        { fs := vs } hall hw (by simp only [List.length_append]; omega)) dest

theorem refines_struct {P : Params} (hP : P.valid = true) (S : Schema) (hS : S.ok = true) (total : Nat)
    (fs : List (Nat × TVal)) (hall : ∀ p ∈ fs, Refines P S total p.2) : Refines P S total (.strct fs) :=
  refines_var S total (c := .strct) (by decide) rfl fun fuel t r dest hw htt => by
    match t, htt with
    | .strct sid, htt =>
      rw [decodeType_succ, fixed_eq hP, if_neg (by rw [htt]; decide), readVal_strct,
        show ser (.strct fs) ++ r = serFields fs ++ 0 :: r by simp [ser]]
      exact decodeStruct_ser hP S hS total fuel sid fs r _ hall hw
    | .ptr e, htt => exact refines_ptr hP S total fuel e _ r dest (by rw [htt]; decide)

theorem refines_map {P : Params} (hP : P.valid = true) (S : Schema) (total : Nat) (a b : Nat)
    (es : List (TVal × TVal)) (hall : ∀ p ∈ es, Refines P S total p.1 ∧ Refines P S total p.2) :
    Refines P S total (.map a b es) :=
  refines_var S total (c := .map) (by decide) rfl fun fuel t r dest hw htt => by
    simp only [wf, Bool.and_eq_true, decide_eq_true_eq] at hw
    obtain ⟨⟨⟨hk, hv⟩, hn⟩, he⟩ := hw
    have hk8 := codeOK_lt hk
    have hv8 := codeOK_lt hv
    match t, htt with
    | .map kt vt, htt =>
      rw [decodeType_map P S total fuel _ dest (by rw [fixed_eq hP, htt]; decide), readVal_map,
        show ser (.map a b es) ++ r = u8 a :: u8 b :: (be32 es.length ++ (serEntries es ++ r)) by simp [ser],
        decodeMap_reads P S _ kt vt (rd8_u8 a _ (by omega)) (rd8_u8 b _ (by omega)) (rd32_be32 es.length _ (by omega)),
        if_neg (by simp [(headers_eq hP).2.1]), if_neg (by omega)]
      by_cases hmis : a ≠ kt.wire ∨ b ≠ vt.wire
      · rw [if_pos hmis, if_pos hmis]
        rfl
      rw [if_neg hmis, if_neg hmis]
      obtain rfl : a = kt.wire := Decidable.of_not_not fun h => hmis (Or.inl h)
      obtain rfl : b = vt.wire := Decidable.of_not_not fun h => hmis (Or.inr h)
      have hkp := minWire_pos hP kt
      rw [decodeMapBody_eq, if_neg (by omega), if_neg (count_fits r (by omega) (entries_count_fits hP _ _ es he)),
        mapLoop_ser hP S total fuel kt vt es r [] hall he,
        mapv_mapv, mapv_mapv]
      rfl
    | .ptr e, htt => exact refines_ptr hP S total fuel e _ r dest (by rw [htt]; decide)

theorem decodeList_ser {P : Params} (hP : P.valid = true) (S : Schema) (total fuel : Nat) (a : Nat) (et : Ty)
    (xs : List TVal) (r : Bytes) (hall : ∀ x ∈ xs, Refines P S total x) (hl : wfList a xs = true)
    (ha : a < 128) (hn : xs.length < 2147483648) :
    decodeList P S (decodeType P S total fuel) et (u8 a :: (be32 xs.length ++ (serList xs ++ r))) =
      (if et.wire ≠ a then (.err .typeMismatch : Outcome Val)
        else (readList P S total fuel et xs r.length).mapv (.lst false)).mapv (·, r) := by
  rw [decodeList_reads P S _ et (rd8_u8 a _ (by omega)) (rd32_be32 xs.length _ (by omega)),
    if_neg (by simp [(headers_eq hP).2.2.1]), if_neg (by omega)]
  by_cases hmis : et.wire ≠ a
  · rw [if_pos hmis, if_pos hmis]
    rfl
  rw [if_neg hmis, if_neg hmis, decodeListBody_eq]
  obtain rfl : et.wire = a := Decidable.of_not_not hmis
  by_cases h0 : xs.length = 0
  · rw [if_pos h0]
    obtain rfl := List.eq_nil_of_length_eq_zero h0
    rw [readList_nil]
    rfl
  have hper := minWire_pos hP et
  rw [if_neg h0, if_neg (by omega), if_neg (count_fits r hper (list_count_fits hP _ xs hl)),
    listLoop_ser hP S total fuel et false xs r hall hl,
    mapv_mapv, mapv_mapv]
  rfl

/-- a set and a list share the wire form and the decoder's branch -/
theorem refines_seq {P : Params} (hP : P.valid = true) (S : Schema) (total : Nat) (a : Nat)
    (xs : List TVal) (hall : ∀ x ∈ xs, Refines P S total x) :
    Refines P S total (.set a xs) ∧ Refines P S total (.list a xs) := by
  refine ⟨refines_var S total (c := .set) (by decide) rfl ?_, refines_var S total (c := .list) (by decide) rfl ?_⟩
  all_goals
    intro fuel t r dest hw htt
    simp only [wf, Bool.and_eq_true, decide_eq_true_eq] at hw
    obtain ⟨⟨ha, hn⟩, hl⟩ := hw
    match t, htt with
    | .list s et, htt =>
      rw [decodeType_list P S total fuel _ dest (by rw [fixed_eq hP, htt]; decide)]
      first | rw [readVal_set] | rw [readVal_list]
      exact decodeList_ser hP S total fuel a et xs r hall hl (codeOK_lt ha) hn
    | .ptr e, htt => exact refines_ptr hP S total fuel e _ r dest (by rw [htt]; decide)

mutual
theorem refines_all {P : Params} (hP : P.valid = true) (S : Schema) (hS : S.ok = true) (total : Nat) :
    ∀ tv : TVal, Refines P S total tv
  | .bool _ | .i8 _ | .double _ | .i16 _ | .i32 _ | .i64 _ =>
    refines_scalar hP S total _ (by simp [TVal.tag, wireFixed])
  | .str s => refines_str hP S total s
  | .strct fs => refines_struct hP S hS total fs (refines_fields hP S hS total fs)
  | .map a b es => refines_map hP S total a b es (refines_entries hP S hS total es)
  | .set a xs => (refines_seq hP S total a xs (refines_list hP S hS total xs)).1
  | .list a xs => (refines_seq hP S total a xs (refines_list hP S hS total xs)).2
termination_by structural tv => tv
theorem refines_fields {P : Params} (hP : P.valid = true) (S : Schema) (hS : S.ok = true) (total : Nat) :
    ∀ fs : List (Nat × TVal), ∀ p ∈ fs, Refines P S total p.2
  | (_, v) :: _, _, .head _ => refines_all hP S hS total v
  | _ :: t, p, .tail _ h => refines_fields hP S hS total t p h
termination_by structural fs => fs
theorem refines_entries {P : Params} (hP : P.valid = true) (S : Schema) (hS : S.ok = true) (total : Nat) :
    ∀ es : List (TVal × TVal), ∀ p ∈ es, Refines P S total p.1 ∧ Refines P S total p.2
  | (a, b) :: _, _, .head _ => ⟨refines_all hP S hS total a, refines_all hP S hS total b⟩
  | _ :: t, p, .tail _ h => refines_entries hP S hS total t p h
termination_by structural es => es
theorem refines_list {P : Params} (hP : P.valid = true) (S : Schema) (hS : S.ok = true) (total : Nat) :
    ∀ xs : List TVal, ∀ x ∈ xs, Refines P S total x
  | y :: _, _, .head _ => refines_all hP S hS total y
  | _ :: t, x, .tail _ h => refines_list hP S hS total t x h
termination_by structural xs => xs
end

/-- C03, top level: the reference reader's result and the number of bytes up to and including the
    top-level STOP -/
theorem decodeM_refines {P : Params} (hP : P.valid = true) (S : Schema) (hS : S.ok = true) (sid : Nat)
    (fs : List (Nat × TVal)) (trailing : Bytes) (dest : Val) (hw : wfFields fs = true) :
    decodeM P S sid (ser (.strct fs) ++ trailing) dest =
      (readMessage P S sid fs trailing.length dest).mapv (·, (ser (.strct fs)).length) := by
  have e : ser (.strct fs) ++ trailing = serFields fs ++ 0 :: trailing := by simp [ser]
  have htot : (serFields fs ++ 0 :: trailing).length = (ser (.strct fs)).length + trailing.length := by
    rw [← e, List.length_append]
  rw [decodeM_eq, readMessage, e, htot,
    decodeStruct_ser hP S hS _ _ sid fs trailing dest (refines_fields hP S hS _ fs) hw, mapv_mapv]
  congr 1
  funext v
  simp only [Function.comp, Nat.add_sub_cancel]

theorem decodeM_accepted {P : Params} (hP : P.valid = true) (S : Schema) (hS : S.ok = true) (sid : Nat)
    (fs : List (Nat × TVal)) (trailing : Bytes) (dest : Val) (hw : wfFields fs = true) {w : Val} {n : Nat}
    (h : decodeM P S sid (ser (.strct fs) ++ trailing) dest = .ok (w, n)) :
    readMessage P S sid fs trailing.length dest = .ok w ∧ n = (ser (.strct fs)).length := by
  rw [decodeM_refines hP S hS sid fs trailing dest hw] at h
  obtain ⟨w0, h0, ⟨⟩⟩ := mapv_eq_ok.1 h
  exact ⟨h0, rfl⟩

end Frugal
