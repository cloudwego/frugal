/-
  `readVal_sim` with the same schema on both sides, taken in both directions: neither run can be the only
  one to run out of depth, so the outcomes are equal under `erase`, errors included.
  (`_te`: independence of `tail`, up to `erase`.)
-/
import Frugal.Proofs.ReaderRel
import Frugal.Proofs.KnownOnly
namespace Frugal
open Outcome (Sim)

section
variable (P : Params) (S : Schema) (total total' : Nat)

theorem readField_te (fuel : Nat) (f : Field) (v : TVal) (tail tail' : Nat) (slot slot' : Val)
    (hs : erase slot = erase slot')
    (hv : ∀ dest dest', erase dest = erase dest' →
      (readVal P S total fuel f.ty.deref v tail dest).mapv erase =
        (readVal P S total' fuel f.ty.deref v tail' dest').mapv erase) :
    (readField P S total fuel f v tail slot).mapv erase = (readField P S total' fuel f v tail' slot').mapv erase :=
  (readField_sim P S false total total' fuel f v tail tail' slot slot' hs nofun
      fun d d' e => Sim.of_eq (hv d d' e)).antisymm
    (readField_sim P S false total' total fuel f v tail' tail slot' slot hs.symm nofun
      fun d d' e => Sim.of_eq (hv d' d e.symm).symm)

variable (hdf : ∀ sid, ∀ f ∈ (S.get sid).fields, ∀ d, f.dflt = some d → plain d = true)
include hdf

theorem valSim_same (fuel : Nat) : ValSim P S false total total' fuel :=
  (readVal_sim P S false total total' nofun (fun sid f hf _ => hdf sid f hf) fuel).1

theorem readVal_te : ∀ (tv : TVal) (fuel : Nat) (t : Ty) (tail tail' : Nat) (dest dest' : Val),
    erase dest = erase dest' →
    (readVal P S total fuel t tv tail dest).mapv erase = (readVal P S total' fuel t tv tail' dest').mapv erase :=
  fun tv fuel t tail tail' dest dest' he =>
    (valSim_same P S total total' hdf fuel t tv tail tail' dest dest' he).antisymm
      (valSim_same P S total' total hdf fuel t tv tail' tail dest' dest he.symm)

theorem readFields_te : ∀ (fs : List (Nat × TVal)) (fuel : Nat) (sd : SDesc) (tail tail' : Nat) (st st' : LoopSt),
    eraseSt st = eraseSt st' →
    (readFields P S total fuel sd fs tail st).mapv eraseSt = (readFields P S total' fuel sd fs tail' st').mapv eraseSt :=
  fun fs fuel sd tail tail' st st' he =>
    (readFields_sim P S false total total' fuel (valSim_same P S total total' hdf fuel) sd nofun
      tail tail' fs st st' he).antisymm
    (readFields_sim P S false total' total fuel (valSim_same P S total' total hdf fuel) sd nofun
      tail' tail fs st' st he.symm)

theorem readList_te : ∀ (xs : List TVal) (fuel : Nat) (et : Ty) (tail tail' : Nat),
    (readList P S total fuel et xs tail).mapv eraseList = (readList P S total' fuel et xs tail').mapv eraseList :=
  fun xs fuel et tail tail' =>
    (readList_sim P S false total total' fuel (valSim_same P S total total' hdf fuel) et tail tail' xs).antisymm
    (readList_sim P S false total' total fuel (valSim_same P S total' total hdf fuel) et tail' tail xs)

theorem readEntries_te : ∀ (es : List (TVal × TVal)) (fuel : Nat) (kt vt : Ty) (tail tail' : Nat)
    (acc acc' : List (Val × Val)), (∀ p ∈ acc, notView p.1 = true) → (∀ p ∈ acc', notView p.1 = true) →
    eraseEntries acc = eraseEntries acc' →
    (readEntries P S total fuel kt vt es tail acc).mapv eraseEntries =
      (readEntries P S total' fuel kt vt es tail' acc').mapv eraseEntries :=
  fun es fuel kt vt tail tail' acc acc' ha ha' he =>
    (readEntries_sim P S false total total' fuel (valSim_same P S total total' hdf fuel) kt vt tail tail'
      es acc acc' ha ha' he).antisymm
    (readEntries_sim P S false total' total fuel (valSim_same P S total' total hdf fuel) kt vt tail' tail
      es acc' acc ha' ha he.symm)
end

theorem FieldG.erase (P : Params) (S : Schema) (fuel : Nat) (sd : SDesc)
    (hdf : ∀ sid, ∀ f ∈ (S.get sid).fields, ∀ d, f.dflt = some d → plain d = true) :
    FieldG erase P S fuel sd where
  dflt := rfl
  idem := erase_erase
  field total total' f v tail tail' slot slot' _ hs :=
    readField_te P S total total' fuel f v tail tail' slot slot' hs
      (readVal_te P S total total' hdf v fuel f.ty.deref _ _)

end Frugal
