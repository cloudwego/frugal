/- An identifier followed by something that is not part of it is read as one token (`readToken_ident`); from
   there `matchAnnot` on a keyword of the tag, and on a name, are one line each. -/
import Frugal.Proofs.TagsOk  -- for the unfolding equations of the resolver functions made there: cheaper than making them again
namespace Frugal

theorem splitComma_append (x : List Char) (hx : ∀ c ∈ x, c ≠ ',') : ∀ (acc rest : List Char),
    splitComma acc (x ++ rest) = splitComma (acc ++ x) rest := by
  induction x with
  | nil => intro acc rest; simp
  | cons c x ih =>
    intro acc rest
    have hc : (c == ',') = false := by simpa using hx c (by simp)
    simp only [List.cons_append, splitComma, hc, Bool.false_eq_true, ↓reduceIte]
    rw [ih (fun d hd => hx d (List.mem_cons_of_mem _ hd))]
    simp

theorem splitComma_comma (x rest : List Char) (hx : ∀ c ∈ x, c ≠ ',') :
    splitComma [] (x ++ ',' :: rest) = x :: splitComma [] rest := by
  rw [splitComma_append x hx]
  simp [splitComma]

theorem trimSpace_pad (a s b : List Char) (ha : ∀ c ∈ a, isGoSpace c = true)
    (hb : ∀ c ∈ b, isGoSpace c = true) : trimSpace (a ++ s ++ b) = trimSpace s := by
  unfold trimSpace
  rw [List.append_assoc, List.dropWhile_append_of_pos ha, List.dropWhile_append]
  split
  · next he =>  -- `s` is all spaces
    have hbn : b.dropWhile isGoSpace = [] := by simpa using List.dropWhile_append_of_pos (l₂ := []) hb
    rw [List.isEmpty_iff.1 he, hbn]
  · rw [List.reverse_append, List.dropWhile_append_of_pos fun c hc => hb c (List.mem_reverse.1 hc)]

/-- the shape of an identifier: a letter or `_`, then letters, digits or `_` -/
def identLike (s : List Char) : Prop :=
  ∃ c r, s = c :: r ∧ isIdent0 c = true ∧ ∀ d ∈ r, isIdent d = true

/-- `rest` does not go on with an identifier character, so a token read before it ends there -/
def stopsIdent (rest : List Char) : Prop := ∀ c r, rest = c :: r → isIdent c = false

theorem isIdent0_not_space {c : Char} (h : isIdent0 c = true) : isGoSpace c = false := by
  cases hs : isGoSpace c with
  | false => rfl
  | true =>
    simp only [isGoSpace, Bool.or_eq_true, beq_iff_eq] at hs
    simp only [isIdent0, Bool.or_eq_true, beq_iff_eq] at h
    have hn : c.toNat = 32 ∨ c.toNat = 9 ∨ c.toNat = 10 ∨ c.toNat = 11 ∨ c.toNat = 12 ∨ c.toNat = 13 ∨
        c.toNat = 0x85 ∨ c.toNat = 0xA0 := by
      rcases hs with ((((((h | h) | h) | h) | h) | h) | h) | h
      all_goals first
        | (subst h; decide)
        | omega
    rcases h with h | h
    · subst h; revert hn; decide
    · simp only [Char.isAlpha, Char.isUpper, Char.isLower, Bool.or_eq_true, Bool.and_eq_true,
        decide_eq_true_eq, UInt32.le_iff_toNat_le, Char.reduceVal, UInt32.reduceToNat] at h
      have e1 : c.val.toNat = c.toNat := rfl
      omega

theorem readToken_ident (s rest : List Char) (eofok : Bool) (hs : identLike s) (hr : stopsIdent rest) :
    readToken (s ++ rest) eofok = some (s, rest) := by
  obtain ⟨c, r, rfl, hc, hrest⟩ := hs
  unfold readToken
  simp only [List.cons_append, List.dropWhile, isIdent0_not_space hc, hc, ↓reduceIte]
  rw [List.takeWhile_append_of_pos hrest, List.dropWhile_append_of_pos hrest]
  cases rest with
  | nil => simp
  | cons d t => simp [hr d t rfl]

/-- the one fact behind "redundant annotation ≡ none" and "byte ≡ i8" -/
theorem matchAnnot_keyword (vt : GoTy) (tag : DTag) (kw rest : List Char) (hk : identLike kw)
    (hr : stopsIdent rest) (h : isKeyword tag kw = true) :
    matchAnnot vt tag (kw ++ rest) = some (rest, false) := by
  simp only [matchAnnot, readToken_ident kw rest false hk hr, h, ↓reduceIte]

/-- `identLike` as a Bool, so that literals are checked by evaluation -/
def identB : List Char → Bool
  | c :: r => isIdent0 c && r.all isIdent
  | [] => false

theorem identLike_of_identB {s : List Char} (h : identB s = true) : identLike s := by
  cases s with
  | nil => cases h
  | cons c r =>
    simp only [identB, Bool.and_eq_true, List.all_eq_true] at h
    exact ⟨c, r, rfl, h.1, h.2⟩

theorem keywords_identLike (tag : DTag) (kw : List Char) (h : kw ∈ keywordsOf tag) : identLike kw := by
  apply identLike_of_identB
  revert kw
  cases tag <;> decide

theorem prim_keyword (k : GoKind) (nm : String) (allow : Bool) (tag : DTag) (kw : List Char)
    (hk : kindTag k = some tag) (h : isKeyword tag kw = true) :
    doParseType (.prim k nm) true kw allow = some (baseOfTag tag, []) := by
  have hm := matchAnnot_keyword (.prim k nm) tag kw []
    (keywords_identLike tag kw (by simpa [isKeyword] using h)) nofun h
  rw [List.append_nil] at hm
  simp [doParseType, hk, hm]

theorem prim_annotated {k : GoKind} {nm : String} {d r : List Char} {allow : Bool} {t : Ty}
    (h : doParseType (.prim k nm) true d allow = some (t, r)) :
    ∃ tag tv rest, kindTag k = some tag ∧ readToken d false = some (tv, rest) ∧
      t = if !isKeyword tag tv && (tag == .i64 && !isPredeclared64 (.prim k nm)) then .base .enum
          else baseOfTag tag := by
  unfold doParseType at h
  split at h
  · cases h
  next tag hk =>
  rw [if_pos rfl] at h
  split at h
  · cases h
  next r' isEnum hm =>
  cases h
  unfold matchAnnot at hm
  split at hm
  · cases hm
  next tv rest htok =>
  refine ⟨tag, tv, rest, hk, htok, ?_⟩
  split at hm
  · next hkw =>
    cases hm
    simp [hkw]
  next hkw =>
  have hkw : isKeyword tag tv = false := by simpa using hkw
  split at hm
  case h_2 => cases hm
  split at hm
  · cases hm
  split at hm
  · cases hm
  split at hm
  · cases hm
  cases hm
  simp [hkw]

theorem enum_rule (k : GoKind) (nm : String) (d : List Char) (allow : Bool) (t : Ty) (r : List Char)
    (h : doParseType (.prim k nm) true d allow = some (t, r)) :
    t = .base .enum ↔
      (kindTag k = some .i64 ∧ isPredeclared64 (.prim k nm) = false ∧
       ∃ tv rest, readToken d false = some (tv, rest) ∧ isKeyword .i64 tv = false) := by
  obtain ⟨tag, tv, rest, hk, htok, rfl⟩ := prim_annotated h
  have hne : baseOfTag tag ≠ .base .enum := by cases tag <;> nofun
  constructor
  · intro ht
    split at ht
    · next hc =>
      simp only [Bool.and_eq_true, Bool.not_eq_true', beq_iff_eq] at hc
      obtain ⟨hkw, rfl, hp⟩ := hc
      exact ⟨hk, hp, tv, rest, htok, hkw⟩
    · exact absurd ht hne
  · rintro ⟨hk', hp, tv', rest', htok', hkw'⟩
    rw [hk] at hk'
    cases hk'
    rw [htok] at htok'
    cases htok'
    simp [hkw', hp]

theorem doMatchStruct_end (vt : GoTy) (rest tv : List Char)
    (hend : ∃ tok sp, readToken rest true = some (tok, sp) ∧ (tok = [] ∨ tok = [':'] ∨ tok = ['>'])) :
    doMatchStruct vt rest tv =
      some (((vt.name == "" && vt.isStructKind) && !isTypeKeyword tv) || String.ofList tv == vt.name, rest) := by
  obtain ⟨tok, sp, htok, rfl | rfl | rfl⟩ := hend <;> simp [doMatchStruct, htok]

theorem matchAnnot_name (vt : GoTy) (tag : DTag) (tv rest : List Char) (hk : identLike tv)
    (hr : stopsIdent rest) (h : isKeyword tag tv = false) :
    matchAnnot vt tag (tv ++ rest) =
      (doMatchStruct vt rest tv).bind fun p =>
        if !p.1 then none else some (p.2, tag == .i64 && !isPredeclared64 vt) := by
  have e := readToken_ident tv rest false hk hr
  obtain ⟨c, r, rfl, hc, _⟩ := hk
  simp only [matchAnnot, e, h, hc, Bool.false_eq_true, ↓reduceIte, Bool.not_true]
  cases doMatchStruct vt rest (c :: r) <;> rfl

theorem qualified_name_same (vt : GoTy) (pkg nm rest : List Char) (hp : identLike pkg) (hn : identLike nm)
    (hrest : stopsIdent rest)
    (hkw1 : isKeyword .strct pkg = false) (hkw2 : isKeyword .strct nm = false)
    (hend : ∃ tok sp, readToken rest true = some (tok, sp) ∧ (tok = [] ∨ tok = [':'] ∨ tok = ['>'])) :
    matchAnnot vt .strct (pkg ++ '.' :: nm ++ rest) = matchAnnot vt .strct (nm ++ rest) := by
  have hdot : stopsIdent ('.' :: (nm ++ rest)) := by
    intro c r h
    cases h
    decide
  have e2 : readToken (nm ++ rest) false = some (nm, rest) := readToken_ident nm rest false hn hrest
  have e3 : readToken ('.' :: (nm ++ rest)) true = some (['.'], nm ++ rest) := by
    simp [readToken, List.dropWhile, isGoSpace, isIdent0]
  -- after the qualifier and the dot, `doMatchStruct` is where it is after the bare name
  have d1 : doMatchStruct vt ('.' :: (nm ++ rest)) pkg = doMatchStruct vt rest nm := by
    rw [doMatchStruct_end vt rest nm hend]
    obtain ⟨c2, r2, rfl, hc2, _⟩ := hn
    unfold doMatchStruct
    simp only [e3, e2]
    simp [hc2]
  rw [matchAnnot_name vt _ nm rest hn hrest hkw2, ← d1,
    ← matchAnnot_name vt _ pkg _ hp hdot hkw1, List.append_assoc, List.cons_append]

end Frugal
