/-
  The error classes C05 names, as the decoder as written reports them: each before any element is
  decoded, hence before anything is allocated for it (`Facts.allocationDiscipline`).
-/
import Frugal.Proofs.DecodeEqns
namespace Frugal

section
variable (P : Params) (S : Schema) (total fuel : Nat)

theorem fixed0_list (s : Bool) (et : Ty) (hf : P.fixedSize (Ty.list s et).tt = 0) :
    ¬ (P.fixedSize (Ty.list s et).tt > 0) := by omega

theorem list_negative_count (s : Bool) (et : Ty) (b r r1 : Bytes) (tp l : Nat) (dest : Val)
    (hf : P.fixedSize (Ty.list s et).tt = 0)
    (h8 : rd8 b = some (tp, r)) (h32 : rd32 r = some (l, r1)) (hlen : ¬ b.length < P.listHeaderLen)
    (hneg : l ≥ 2147483648) :
    decodeType P S total (fuel + 1) (.list s et) b dest = .err .negative := by
  rw [decodeType_list P S total fuel b dest (fixed0_list P s et hf), decodeList_reads P S _ et h8 h32,
    if_neg hlen, if_pos hneg]

theorem list_type_mismatch (s : Bool) (et : Ty) (b r r1 : Bytes) (tp l : Nat) (dest : Val)
    (hf : P.fixedSize (Ty.list s et).tt = 0)
    (h8 : rd8 b = some (tp, r)) (h32 : rd32 r = some (l, r1)) (hlen : ¬ b.length < P.listHeaderLen)
    (hneg : ¬ l ≥ 2147483648) (hty : et.wire ≠ tp) :
    decodeType P S total (fuel + 1) (.list s et) b dest = .err .typeMismatch := by
  rw [decodeType_list P S total fuel b dest (fixed0_list P s et hf), decodeList_reads P S _ et h8 h32,
    if_neg hlen, if_neg hneg, if_pos hty]

/-- list / set: more elements announced than the remaining bytes can hold — rejected before the
    element loop -/
theorem list_count_exceeds (s : Bool) (et : Ty) (b r r1 : Bytes) (tp l : Nat) (dest : Val)
    (hf : P.fixedSize (Ty.list s et).tt = 0)
    (h8 : rd8 b = some (tp, r)) (h32 : rd32 r = some (l, r1)) (hlen : ¬ b.length < P.listHeaderLen)
    (hneg : ¬ l ≥ 2147483648) (hty : et.wire = tp) (hl0 : l ≠ 0) (hper : P.minWireOf et.wire ≠ 0)
    (hbig : l > r1.length / P.minWireOf et.wire) :
    decodeType P S total (fuel + 1) (.list s et) b dest = .err .sizeLimit := by
  rw [decodeType_list P S total fuel b dest (fixed0_list P s et hf), decodeList_reads P S _ et h8 h32,
    if_neg hlen, if_neg hneg, if_neg (by omega), decodeListBody_eq, if_neg hl0, if_neg hper, if_pos hbig]

theorem list_truncated_header (s : Bool) (et : Ty) (b : Bytes) (dest : Val)
    (hf : P.fixedSize (Ty.list s et).tt = 0) (hshort : b.length < 5) :
    decodeType P S total (fuel + 1) (.list s et) b dest = .err .short := by
  rw [decodeType_list P S total fuel b dest (fixed0_list P s et hf)]
  unfold decodeList
  split
  · rfl
  rename_i tp r h8
  split
  · rfl
  rename_i l r1 h32
  -- both reads succeeded, so there are at least five bytes
  obtain ⟨rfl, _⟩ := rd8_inv h8
  obtain ⟨rfl, _⟩ := rd32_inv h32
  simp only [List.length_cons, List.length_append, be32_length] at hshort
  omega

theorem map_negative_count (kt vt : Ty) (b r r1 r2 : Bytes) (t0 t1 l : Nat) (dest : Val)
    (hf : P.fixedSize (Ty.map kt vt).tt = 0)
    (h8a : rd8 b = some (t0, r)) (h8b : rd8 r = some (t1, r1)) (h32 : rd32 r1 = some (l, r2))
    (hlen : ¬ b.length < P.mapHeaderLen) (hneg : l ≥ 2147483648) :
    decodeType P S total (fuel + 1) (.map kt vt) b dest = .err .negative := by
  rw [decodeType_map P S total fuel b dest (by omega), decodeMap_reads P S _ kt vt h8a h8b h32,
    if_neg hlen, if_pos hneg]

theorem map_type_mismatch (kt vt : Ty) (b r r1 r2 : Bytes) (t0 t1 l : Nat) (dest : Val)
    (hf : P.fixedSize (Ty.map kt vt).tt = 0)
    (h8a : rd8 b = some (t0, r)) (h8b : rd8 r = some (t1, r1)) (h32 : rd32 r1 = some (l, r2))
    (hlen : ¬ b.length < P.mapHeaderLen) (hneg : ¬ l ≥ 2147483648) (hty : t0 ≠ kt.wire ∨ t1 ≠ vt.wire) :
    decodeType P S total (fuel + 1) (.map kt vt) b dest = .err .typeMismatch := by
  rw [decodeType_map P S total fuel b dest (by omega), decodeMap_reads P S _ kt vt h8a h8b h32,
    if_neg hlen, if_neg hneg, if_pos hty]

theorem map_count_exceeds (kt vt : Ty) (b r r1 r2 : Bytes) (t0 t1 l : Nat) (dest : Val)
    (hf : P.fixedSize (Ty.map kt vt).tt = 0)
    (h8a : rd8 b = some (t0, r)) (h8b : rd8 r = some (t1, r1)) (h32 : rd32 r1 = some (l, r2))
    (hlen : ¬ b.length < P.mapHeaderLen) (hneg : ¬ l ≥ 2147483648) (hk : t0 = kt.wire) (hv : t1 = vt.wire)
    (hper : P.minWireOf kt.wire + P.minWireOf vt.wire ≠ 0)
    (hbig : l > r2.length / (P.minWireOf kt.wire + P.minWireOf vt.wire)) :
    decodeType P S total (fuel + 1) (.map kt vt) b dest = .err .sizeLimit := by
  rw [decodeType_map P S total fuel b dest (by omega), decodeMap_reads P S _ kt vt h8a h8b h32,
    if_neg hlen, if_neg hneg, if_neg (by omega), decodeMapBody_eq, if_neg hper, if_pos hbig]

theorem str_negative_length (isBin nocopy : Bool) (b r : Bytes) (l : Nat) (h32 : rd32 b = some (l, r))
    (hneg : l ≥ 2147483648) : decodeStr isBin nocopy total b = .err .negative := by
  simp [decodeStr, h32, hneg]

theorem str_length_exceeds (isBin nocopy : Bool) (b r : Bytes) (l : Nat) (h32 : rd32 b = some (l, r))
    (hneg : ¬ l ≥ 2147483648) (hbig : l > r.length) : decodeStr isBin nocopy total b = .err .sizeLimit := by
  have hl0 : l ≠ 0 := by omega
  simp [decodeStr, h32, hneg, hl0, hbig]

theorem str_truncated_length (isBin nocopy : Bool) (b : Bytes) (h : rd32 b = none) :
    decodeStr isBin nocopy total b = .err .short := by
  simp [decodeStr, h]

end
end Frugal
