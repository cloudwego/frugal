import Frugal.Encode
import Frugal.Proofs.TypedInduct  -- for the equation lemmas of `hasTy` & co. it has made: cheaper than making them again
import Frugal.Proofs.WireRT
namespace Frugal

/- no struct anywhere in the value carries retained unknown-field bytes -/
mutual
def noHolder : Val → Bool
  | .st fs h => h.isEmpty && noHolderList fs
  | .ptr v => noHolder v
  | .lst _ xs => noHolderList xs
  | .mp _ es => noHolderEntries es
  | _ => true
def noHolderList : List Val → Bool
  | [] => true
  | x :: r => noHolder x && noHolderList r
def noHolderEntries : List (Val × Val) → Bool
  | [] => true
  | (a, b) :: r => noHolder a && noHolder b && noHolderEntries r
end

/- every string / container length fits a positive int32 (the wire format's limit) -/
mutual
def sizesFit : Val → Bool
  | .str s => s.length < 2147483648
  | .bin _ s => s.length < 2147483648
  | .ptr v => sizesFit v
  | .lst _ xs => xs.length < 2147483648 && sizesFitList xs
  | .mp _ es => es.length < 2147483648 && sizesFitEntries es
  | .st fs _ => sizesFitList fs
  | _ => true
def sizesFitList : List Val → Bool
  | [] => true
  | x :: r => sizesFit x && sizesFitList r
def sizesFitEntries : List (Val × Val) → Bool
  | [] => true
  | (a, b) :: r => sizesFit a && sizesFit b && sizesFitEntries r
end

theorem be32_mod (n : Nat) : be32 (n % 4294967296) = be32 n := by
  -- the byte at weight `m` depends on `n` below the next multiple of `256 * m` only
  have h (m j : Nat) (hm : m * (256 * j) = 4294967296) : u8 (n % 4294967296 / m) = u8 (n / m) := by
    simp only [← hm, u8, Nat.mod_mul_right_div_self, Nat.mod_mul_right_mod]
  have h0 := h 1 16777216 rfl
  simp only [Nat.div_one] at h0
  simp only [be32, h 16777216 1 rfl, h 65536 256 rfl, h 256 65536 rfl, h0]

theorem scalarTVal_ser (k : Kind) (n : Nat) (hk : k ≠ .string) (hb : k ≠ .binary) :
    ser (scalarTVal k n) = encScalar k n := by
  -- an enum travels as the low 32 bits of its 64
  cases k with
  | enum => exact be32_mod n
  | string => exact absurd rfl hk
  | binary => exact absurd rfl hb
  | _ => rfl

theorem scalarTVal_tag (k : Kind) (n : Nat) (hk : k ≠ .string) (hb : k ≠ .binary) :
    (scalarTVal k n).tag = (Ty.base k).wire := by
  cases k with
  | string => exact absurd rfl hk
  | binary => exact absurd rfl hb
  | _ => rfl

theorem scalarTVal_wf (k : Kind) (n : Nat) (hk : k ≠ .string) (hb : k ≠ .binary) (h : hasTy S (.base k) (.sc n) = true) :
    wf (scalarTVal k n) = true := by
  -- a typed scalar is below `2 ^ bits` of its kind (a bool below 2); `wf` asks for the wire width
  cases k with
  | string => exact absurd rfl hk
  | binary => exact absurd rfl hb
  | bool =>
    have : n < 2 := by simpa [hasTy] using h
    simp only [scalarTVal, wf, decide_eq_true_eq]
    omega
  | enum =>
    simp only [scalarTVal, wf, decide_eq_true_eq]
    omega
  | _ =>
    unfold hasTy at h
    simpa [Kind.bits, scalarTVal, wf] using of_decide_eq_true h

theorem isCode_wire (t : Ty) : isCode t.wire = true := by
  unfold Ty.wire
  cases t.tt <;> rfl

theorem codeOK_wire (t : Ty) : codeOK t.wire = true := by
  unfold Ty.wire
  cases t.tt <;> rfl

/-- a nil pointer is only ever encoded when it is a pointer to a struct (empty struct) -/
def nilOK (ty : Ty) (v : Val) : Bool := !(ty.isPtr && !ty.isStructPtr && isNilWord v)

theorem nilOK_of_notPtr {e : Ty} (he : e.isPtr = false) (x : Val) : nilOK e x = true := by
  simp only [nilOK, he, Bool.false_and, Bool.not_false]

theorem nilOK_of_elem {e : Ty} (h : (!e.isPtr || e.isStructPtr) = true) (x : Val) : nilOK e x = true := by
  unfold nilOK
  cases hp : e.isPtr <;> cases hs : e.isStructPtr <;> simp [hp, hs] at h ⊢

theorem nilOK_of_written {sd : SDesc} {f : Field} {x : Val} (hf : f.ok = true)
    (hw : fieldWritten sd f x = true) : nilOK f.ty x = true := by
  simp only [Field.ok, Bool.and_eq_true, Bool.or_eq_true, Bool.not_eq_true', beq_iff_eq] at hf
  unfold nilOK
  cases hp : f.ty.isPtr <;> cases hs : f.ty.isStructPtr <;> cases hn : isNilWord x <;> simp
  -- pointer to a non-struct, nil: the field must be optional, hence it is skipped
  have hopt : f.req = .optional := by
    rcases hf.1.1.2 with (h | h) | h
    · rw [hp] at h; cases h
    · rw [hs] at h; cases h
    · exact h
  simp [fieldWritten, hopt, hp, hn] at hw

end Frugal
