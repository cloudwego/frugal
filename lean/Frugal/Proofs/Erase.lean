/-
  Two ways of forgetting `nocopy`: `erase` on values, `clearNC` on schemas.  `erase` commutes with what
  the reader does to values — with `mapInsert` only on keys that are not views (`notView`).
-/
import Frugal.Proofs.ReaderInd
namespace Frugal

/-- the schema without the `nocopy` option (field, struct, schema) -/
def Field.clearNC (f : Field) : Field := { f with nocopy := false }
def SDesc.clearNC (sd : SDesc) : SDesc := { sd with fields := sd.fields.map Field.clearNC }
def Schema.clearNC (S : Schema) : Schema := S.map SDesc.clearNC

@[simp] theorem clearNC_length (S : Schema) : S.clearNC.length = S.length := List.length_map _

theorem get_clearNC (S : Schema) (sid : Nat) : S.clearNC.get sid = (S.get sid).clearNC := by
  simp only [Schema.get, Schema.clearNC, List.getD_eq_getElem?_getD, List.getElem?_map]
  cases S[sid]? <;> rfl

@[simp] theorem clearNC_ty (f : Field) : f.clearNC.ty = f.ty := rfl
@[simp] theorem clearNC_id (f : Field) : f.clearNC.id = f.id := rfl
@[simp] theorem clearNC_req (f : Field) : f.clearNC.req = f.req := rfl
@[simp] theorem clearNC_dflt (f : Field) : f.clearNC.dflt = f.dflt := rfl
@[simp] theorem clearNC_assigned (f : Field) : f.clearNC.assigned = f.assigned := rfl
@[simp] theorem clearNC_nocopy (f : Field) : f.clearNC.nocopy = false := rfl
@[simp] theorem clearNC_name (f : Field) : f.clearNC.name = f.name := rfl
@[simp] theorem sd_clearNC_hasInit (sd : SDesc) : sd.clearNC.hasInit = sd.hasInit := rfl
@[simp] theorem sd_clearNC_hasHolder (sd : SDesc) : sd.clearNC.hasHolder = sd.hasHolder := rfl
@[simp] theorem sd_clearNC_fields (sd : SDesc) : sd.clearNC.fields = sd.fields.map Field.clearNC := rfl

theorem mem_clearNC_fields {S : Schema} {sid : Nat} {f : Field} (hf : f ∈ (S.clearNC.get sid).fields) :
    ∃ g ∈ (S.get sid).fields, f = g.clearNC := by
  rw [get_clearNC, sd_clearNC_fields, List.mem_map] at hf
  exact hf.imp fun g h => ⟨h.1, h.2.symm⟩

theorem zeroVal_clearNC (S : Schema) : ∀ (n : Nat) (t : Ty), zeroVal S.clearNC n t = zeroVal S n t
  | 0, t => by cases t with
    | base k => cases k <;> rfl
    | _ => rfl
  | n + 1, t => by
    cases t with
    | base k => cases k <;> rfl
    | strct sid =>
      simp only [zeroVal, get_clearNC, sd_clearNC_fields, List.map_map]
      congr 1
      apply List.map_congr_left
      intro f _
      simp [zeroVal_clearNC S n]
    | _ => rfl

theorem fieldWritten_clearNC (sd : SDesc) (f : Field) (x : Val) :
    fieldWritten sd.clearNC f.clearNC x = fieldWritten sd f x := by
  simp [fieldWritten, Field.default]

theorem applyInit_clearNC : ∀ (fs : List Field) (vs : List Val),
    applyInit (fs.map Field.clearNC) vs = applyInit fs vs
  | [], _ | _ :: _, [] => rfl
  | f :: fr, v :: vr => by
    simp only [List.map_cons, applyInit, clearNC_assigned, clearNC_dflt, applyInit_clearNC fr vr]
    rfl

theorem initDest_clearNC (S : Schema) (sid : Nat) (d : Val) : initDest S.clearNC sid d = initDest S sid d := by
  cases d <;> simp [initDest, get_clearNC, applyInit_clearNC]

theorem findField_clearNC : ∀ (fs : List Field) (id ix : Nat),
    findField (fs.map Field.clearNC) id ix = (findField fs id ix).map fun p => (p.1, p.2.clearNC)
  | [], _, _ => rfl
  | f :: fr, id, ix => by
    simp only [List.map_cons, findField, clearNC_id]
    by_cases h : f.id = id
    · simp [h]
    · simp only [h, ↓reduceIte]
      exact findField_clearNC fr id (ix + 1)

theorem lookupKnown_clearNC (sd : SDesc) (id tag : Nat) :
    lookupKnown sd.clearNC id tag = (lookupKnown sd id tag).map fun p => (p.1, p.2.clearNC) := by
  unfold lookupKnown
  rw [sd_clearNC_fields, findField_clearNC]
  cases findField sd.fields id 0 with
  | none => rfl
  | some p =>
    obtain ⟨ix, f⟩ := p
    simp only [Option.map_some, clearNC_ty, Ty.wire]
    by_cases h : f.ty.tt.wire = tag <;> simp [h]

theorem firstMissing_clearNC : ∀ (fs : List Field) (seen : List Nat),
    firstMissing (fs.map Field.clearNC) seen = (firstMissing fs seen).map Field.clearNC
  | [], _ => rfl
  | f :: fr, seen => by
    have ih := firstMissing_clearNC fr seen
    simp only [List.map_cons, firstMissing, clearNC_req, clearNC_id, ih]
    split <;> rfl

/-- `S` (`c = false`) or `S.clearNC` (`c = true`), either by computation: the second schema of `readVal_sim` -/
def Schema.clearIf (c : Bool) (S : Schema) : Schema := bif c then S.clearNC else S
def SDesc.clearIf (c : Bool) (sd : SDesc) : SDesc := bif c then sd.clearNC else sd
def Field.clearIf (c : Bool) (f : Field) : Field := bif c then f.clearNC else f

section
variable (c : Bool) (S : Schema) (sd : SDesc) (f : Field)

theorem Field.clearIf_eq : f.clearIf c = { f with nocopy := !c && f.nocopy } := by cases c <;> rfl
@[simp] theorem clearIf_hasHolder : (sd.clearIf c).hasHolder = sd.hasHolder := by cases c <;> rfl
@[simp] theorem clearIf_length : (S.clearIf c).length = S.length := by
  cases c with
  | false => rfl
  | true => exact clearNC_length S

@[simp] theorem zeroVal_clearIf (n : Nat) (t : Ty) : zeroVal (S.clearIf c) n t = zeroVal S n t := by
  cases c
  · rfl
  · exact zeroVal_clearNC S n t

theorem get_clearIf (sid : Nat) : (S.clearIf c).get sid = (S.get sid).clearIf c := by
  cases c
  · rfl
  · exact get_clearNC S sid

theorem initDest_clearIf (sid : Nat) (d : Val) : initDest (S.clearIf c) sid d = initDest S sid d := by
  cases c
  · rfl
  · exact initDest_clearNC S sid d

theorem lookupKnown_clearIf (id tag : Nat) :
    lookupKnown (sd.clearIf c) id tag = (lookupKnown sd id tag).map fun p => (p.1, p.2.clearIf c) := by
  cases c
  · exact Option.map_id'.symm
  · exact lookupKnown_clearNC sd id tag

theorem firstMissing_clearIf (seen : List Nat) :
    firstMissing (sd.clearIf c).fields seen = (firstMissing sd.fields seen).map (Field.clearIf c) := by
  cases c
  · exact Option.map_id'.symm
  · exact firstMissing_clearNC sd.fields seen
end

mutual
theorem erase_plain : ∀ v : Val, plain v = true → erase v = v
  | .sc _, _ | .str _, _ | .bin _ _, _ | .nilp, _ => rfl
  | .vstr _ _, h | .vbin _ _, h => by cases h
  | .ptr v, h => by simp only [plain] at h; simp only [erase, erase_plain v h]
  | .lst n xs, h => by simp only [plain] at h; simp only [erase, eraseList_plain xs h]
  | .mp n es, h => by simp only [plain] at h; simp only [erase, eraseEntries_plain es h]
  | .st fs hh, h => by simp only [plain] at h; simp only [erase, eraseList_plain fs h]
termination_by structural v => v
theorem eraseList_plain : ∀ xs : List Val, plainList xs = true → eraseList xs = xs
  | [], _ => rfl
  | x :: r, h => by
    simp only [plainList, Bool.and_eq_true] at h
    simp only [eraseList, erase_plain x h.1, eraseList_plain r h.2]
termination_by structural xs => xs
theorem eraseEntries_plain : ∀ es : List (Val × Val), plainEntries es = true → eraseEntries es = es
  | [], _ => rfl
  | (a, b) :: r, h => by
    simp only [plainEntries, Bool.and_eq_true] at h
    simp only [eraseEntries, erase_plain a h.1.1, erase_plain b h.1.2, eraseEntries_plain r h.2]
termination_by structural es => es
end

mutual
theorem plain_erase : ∀ v : Val, plain (erase v) = true
  | .sc _ | .str _ | .bin _ _ | .nilp | .vstr _ _ | .vbin _ _ => rfl
  | .ptr v => by simp only [erase, plain, plain_erase v]
  | .lst n xs => by simp only [erase, plain, plainList_eraseList xs]
  | .mp n es => by simp only [erase, plain, plainEntries_eraseEntries es]
  | .st fs h => by simp only [erase, plain, plainList_eraseList fs]
termination_by structural v => v
theorem plainList_eraseList : ∀ xs : List Val, plainList (eraseList xs) = true
  | [] => rfl
  | x :: r => by simp only [eraseList, plainList, plain_erase x, plainList_eraseList r, Bool.and_self]
termination_by structural xs => xs
theorem plainEntries_eraseEntries : ∀ es : List (Val × Val), plainEntries (eraseEntries es) = true
  | [] => rfl
  | (a, b) :: r => by
    simp only [eraseEntries, plainEntries, plain_erase a, plain_erase b, plainEntries_eraseEntries r, Bool.and_self]
termination_by structural es => es
end

theorem erase_erase (v : Val) : erase (erase v) = erase v := erase_plain _ (plain_erase v)
theorem eraseList_eraseList : ∀ xs : List Val, eraseList (eraseList xs) = eraseList xs :=
  fun xs => eraseList_plain _ (plainList_eraseList xs)
theorem eraseEntries_eraseEntries : ∀ es : List (Val × Val), eraseEntries (eraseEntries es) = eraseEntries es :=
  fun es => eraseEntries_plain _ (plainEntries_eraseEntries es)

theorem eraseList_eq_map : ∀ xs : List Val, eraseList xs = xs.map erase
  | [] => rfl
  | x :: r => by rw [eraseList, eraseList_eq_map r]; rfl

theorem erase_wrapPtr (t : Ty) (w : Val) : erase (wrapPtr t w) = wrapPtr t (erase w) := by
  unfold wrapPtr; split <;> rfl

theorem erase_wrapPtr_congr (t : Ty) {a a' : Val} (e : erase a = erase a') :
    erase (wrapPtr t a) = erase (wrapPtr t a') := by
  rw [erase_wrapPtr, erase_wrapPtr, e]

theorem erase_zeroVal (S : Schema) (n : Nat) (t : Ty) : erase (zeroVal S n t) = zeroVal S n t :=
  erase_plain _ (zeroVal_plain S n t)

theorem eraseList_length : ∀ xs : List Val, (eraseList xs).length = xs.length :=
  fun xs => by rw [eraseList_eq_map, List.length_map]

theorem eraseList_getD (xs : List Val) (i : Nat) : (eraseList xs).getD i default = erase (xs.getD i default) := by
  simp only [eraseList_eq_map, List.getD_eq_getElem?_getD, List.getElem?_map]
  cases xs[i]? <;> rfl

theorem eraseList_set (xs : List Val) (i : Nat) (x : Val) :
    eraseList (xs.set i x) = (eraseList xs).set i (erase x) := by
  rw [eraseList_eq_map, eraseList_eq_map, List.map_set]

theorem eraseList_applyInit : ∀ (fs : List Field) (vs : List Val),
    (∀ f ∈ fs, f.assigned = true → ∀ d, f.dflt = some d → plain d = true) →
    eraseList (applyInit fs vs) = applyInit fs (eraseList vs)
  | [], _, _ | _ :: _, [], _ => rfl
  | f :: fr, v :: vr, hd => by
    have ih := eraseList_applyInit fr vr (fun g hg => hd g (List.mem_cons_of_mem _ hg))
    simp only [applyInit, eraseList, ih]
    congr 1
    by_cases ha : f.assigned = true
    · rw [if_pos ha, if_pos ha]
      cases hdf : f.dflt with
      | none => rfl
      | some d => exact erase_plain d (hd f (List.mem_cons_self ..) ha d hdf)
    · rw [if_neg ha, if_neg ha]

theorem erase_initDest (S : Schema) (sid : Nat) (d : Val)
    (hdf : ∀ f ∈ (S.get sid).fields, f.assigned = true → ∀ x, f.dflt = some x → plain x = true) :
    erase (initDest S sid d) = initDest S sid (erase d) := by
  cases d with
  | st vs hh =>
    simp only [initDest, erase]
    split
    · simp only [erase, eraseList_applyInit _ _ hdf]
    · rfl
  | _ => rfl

theorem erase_eq_st (d' : Val) (ws : List Val) (h : Bytes) (he : erase d' = .st ws h) :
    ∃ vs', d' = .st vs' h ∧ eraseList vs' = ws := by
  cases d' with
  | st vs h' => cases he; exact ⟨vs, rfl, rfl⟩
  | _ => cases he

theorem erase_ne_st (d d' : Val) (he : erase d = erase d') (hne : ∀ vs h, d ≠ .st vs h) :
    ∀ vs h, d' ≠ .st vs h := by
  intro vs h hd
  subst hd
  cases d with
  | st ws g => exact hne ws g rfl
  | _ => cases he

def eraseSt (st : LoopSt) : LoopSt := { st with fs := eraseList st.fs }

theorem eraseSt_eq {st st' : LoopSt} (h : eraseSt st = eraseSt st') :
    eraseList st.fs = eraseList st'.fs ∧ st.seen = st'.seen ∧ st.unk = st'.unk :=
  have h1 := congrArg LoopSt.fs h
  have h2 := congrArg LoopSt.seen h
  have h3 := congrArg LoopSt.unk h
  ⟨h1, h2, h3⟩

/-- Not itself a view (views further down are allowed).  `keyEq` tells a view from the string it shows
    (a view equals nothing), so `erase` commutes with `mapInsert` only on such keys; the reader's are
    (`reader_notView`). -/
def notView : Val → Bool
  | .vstr _ _ => false
  | .vbin _ _ => false
  | _ => true

theorem plain_notView {w : Val} (h : plain w = true) : notView w = true := by
  cases w with
  | vstr _ _ | vbin _ _ => cases h
  | _ => rfl

theorem keyEq_erase (kt : Ty) (a k : Val) (ha : notView a = true) (hk : notView k = true) :
    keyEq kt (erase a) (erase k) = keyEq kt a k := by
  -- `keyEq` looks at the second key only when the first is a scalar or a string
  cases a with
  | vstr _ _ | vbin _ _ => cases ha
  | sc _ | str _ =>
    cases k with
    | vstr _ _ | vbin _ _ => cases hk
    | _ => rfl
  | _ => rfl

theorem keyEq_congr (kt : Ty) (a a' k k' : Val) (ha : notView a = true) (ha' : notView a' = true)
    (hk : notView k = true) (hk' : notView k' = true) (ea : erase a = erase a') (ek : erase k = erase k') :
    keyEq kt a k = keyEq kt a' k' := by
  rw [← keyEq_erase kt a k ha hk, ← keyEq_erase kt a' k' ha' hk', ea, ek]

theorem notView_erase (a : Val) (_ : notView a = true) : notView (erase a) = true :=
  plain_notView (plain_erase a)

theorem notView_wrapPtr (t : Ty) (w : Val) (h : notView w = true) : notView (wrapPtr t w) = true := by
  unfold wrapPtr; split
  · rfl
  · exact h

theorem mapInsert_erase (kt : Ty) : ∀ (acc : List (Val × Val)) (k v : Val),
    (∀ p ∈ acc, notView p.1 = true) → notView k = true →
    eraseEntries (mapInsert kt acc k v) = mapInsert kt (eraseEntries acc) (erase k) (erase v)
  | [], k, v, _, _ => rfl
  | (a, b) :: r, k, v, hacc, hk => by
    have ha := hacc (a, b) (List.mem_cons_self ..)
    simp only [mapInsert, eraseEntries, keyEq_erase kt a k ha hk]
    split
    · simp [eraseEntries]
    · simp only [eraseEntries]
      rw [mapInsert_erase kt r k v (fun p hp => hacc p (List.mem_cons_of_mem _ hp)) hk]

theorem mapInsert_keys_notView (kt : Ty) : ∀ (acc : List (Val × Val)) (k v : Val),
    (∀ p ∈ acc, notView p.1 = true) → notView k = true → ∀ p ∈ mapInsert kt acc k v, notView p.1 = true
  | [], k, v, _, hk => List.forall_mem_cons.2 ⟨hk, nofun⟩
  | (a, b) :: r, k, v, hacc, hk => by
    obtain ⟨ha, hr⟩ := List.forall_mem_cons.1 hacc
    unfold mapInsert
    split
    · exact List.forall_mem_cons.2 ⟨hk, hr⟩
    · exact List.forall_mem_cons.2 ⟨ha, mapInsert_keys_notView kt r k v hr hk⟩

theorem eraseEntries_keys_notView : ∀ acc : List (Val × Val), ∀ p ∈ eraseEntries acc, notView p.1 = true
  | [] => nofun
  | (a, _) :: r => List.forall_mem_cons.2 ⟨plain_notView (plain_erase a), eraseEntries_keys_notView r⟩

theorem readFixed_erase (t : TT) (tv : TVal) (w : Val) (h : readFixed t tv = .ok w) :
    erase w = w ∧ notView w = true :=
  have hp := readFixed_plain t tv w h
  ⟨erase_plain w hp, plain_notView hp⟩

theorem readFixed_mapv_erase (t : TT) (tv : TVal) : (readFixed t tv).mapv erase = readFixed t tv := by
  cases h : readFixed t tv with
  | ok w => simp [Outcome.mapv, (readFixed_erase t tv w h).1]
  | err _ | panic _ => rfl

/-- views are made by the field loop only: they sit inside struct values -/
theorem reader_notView (P : Params) (S : Schema) (total : Nat) :
    (∀ {fuel t tv tail dest w}, readVal P S total fuel t tv tail dest = .ok w → notView w = true) ∧
    (∀ {fuel sid fs tail dest w}, readStruct P S total fuel sid fs tail dest = .ok w → notView w = true) ∧
    (∀ {fuel sd fs tail st st'}, readFields P S total fuel sd fs tail st = .ok st' → True) ∧
    (∀ {fuel t x tail slot w}, readSlot P S total fuel t x tail slot = .ok w → notView w = true) ∧
    (∀ {fuel et xs tail vs}, readList P S total fuel et xs tail = .ok vs → True) ∧
    (∀ {fuel kt vt es tail acc res}, readEntries P S total fuel kt vt es tail acc = .ok res → True) := by
  apply reader_induction
  case fixed => intro _ _ _ _ _ _ _ h; exact (readFixed_erase _ _ _ h).2
  case str => intro _ _ _ _ _ _ _ h; exact plain_notView (readStr_copy_plain _ _ _ _ _ h)
  case map | list | set | struct => intros; rfl
  case structVal => intro _ _ _ _ _ _ _ ih; exact ih
  case fieldsNil | fieldsUnknown | fieldsView | fieldsKnown | listNil | listCons | entriesNil | entriesCons =>
    intros; trivial
  case slotFixed => intro _ t _ _ _ _ _ h; exact notView_wrapPtr t _ (readFixed_erase _ _ _ h).2
  case slotVal => intro _ t _ _ _ _ _ _ ih; exact notView_wrapPtr t _ ih

theorem readSlot_notView (P : Params) (S : Schema) (total fuel : Nat) (t : Ty) (x : TVal) (tail : Nat)
    (slot w : Val) (h : readSlot P S total fuel t x tail slot = .ok w) : notView w = true :=
  (reader_notView P S total).2.2.2.1 h

theorem readStr_erase (isBin nc nc' : Bool) (total total' tail tail' : Nat) (tv : TVal) :
    (readStr isBin nc total tail tv).mapv erase = (readStr isBin nc' total' tail' tv).mapv erase := by
  cases tv with
  | str s =>
    simp only [readStr]
    by_cases hz : s.length = 0
    · rw [if_pos hz, if_pos hz]
    · rw [if_neg hz, if_neg hz]
      cases nc <;> cases nc' <;> cases isBin <;> rfl
  | _ => rfl

end Frugal
