/- `toWire` and `norm` do not look at holder bytes: they are `toWireH` and `normH` at `stripH v`, which meets every
   side condition the holder theorems ask for. -/
import Frugal.Proofs.Holders
namespace Frugal

mutual
def stripH : Val → Val
  | .st fs _ => .st (stripHList fs) []
  | .ptr v => .ptr (stripH v)
  | .lst n xs => .lst n (stripHList xs)
  | .mp n es => .mp n (stripHEntries es)
  | v => v
def stripHList : List Val → List Val
  | [] => []
  | x :: r => stripH x :: stripHList r
def stripHEntries : List (Val × Val) → List (Val × Val)
  | [] => []
  | (a, b) :: r => (stripH a, stripH b) :: stripHEntries r
end

theorem stripHList_length : ∀ xs : List Val, (stripHList xs).length = xs.length
  | [] => rfl
  | x :: r => by simp only [stripHList, List.length_cons, stripHList_length r]

theorem stripHEntries_length : ∀ es : List (Val × Val), (stripHEntries es).length = es.length
  | [] => rfl
  | (a, b) :: r => by simp only [stripHEntries, List.length_cons, stripHEntries_length r]

theorem isNilWord_stripH (v : Val) : isNilWord (stripH v) = isNilWord v := by
  cases v <;> rfl

theorem nilOK_stripH (t : Ty) (v : Val) : nilOK t (stripH v) = nilOK t v := by
  simp only [nilOK, isNilWord_stripH]

/-- whether a field is written depends on nil-ness and on scalar or string equality with the default:
    on nothing below a holder -/
theorem fieldWritten_stripH (sd : SDesc) (f : Field) (v : Val) :
    fieldWritten sd f (stripH v) = fieldWritten sd f v := by
  have hg : goEqual f.ty.tt f.default (stripH v) = goEqual f.ty.tt f.default v := by
    cases v with
    | st _ _ | ptr _ | lst _ _ | mp _ _ => cases f.default <;> rfl
    | _ => rfl
  simp only [fieldWritten, isNilWord_stripH, hg]

theorem seenOf_stripH (sd : SDesc) : ∀ (fs : List Field) (xs : List Val) (seen : List Nat),
    seenOf sd fs (stripHList xs) seen = seenOf sd fs xs seen
  | [], xs, _ => by cases xs <;> rfl
  | _ :: _, [], _ => rfl
  | f :: fr, x :: xr, seen => by simp only [stripHList, seenOf, fieldWritten_stripH, seenOf_stripH sd fr xr]

/-- typed: on an ill-typed pair `norm` returns its argument, stripped or not -/
theorem stripH_all (S : Schema) :
    (∀ (t : Ty) (v : Val), hasTy S t v = true →
      hasTy S t (stripH v) = true ∧ toWireH S t (stripH v) = toWire S t v ∧
      (∀ d, normH S t (stripH v) d = norm S t v d) ∧ rtOK S t (stripH v) = rtOK S t v ∧
      holdersOK (stripH v) = true ∧ (∀ P, unkOK P S t (stripH v) = true) ∧ fitH (stripH v) = sizesFit v) ∧
    (∀ (fs : List Field) (xs : List Val), hasTyFields S fs xs = true →
      hasTyFields S fs (stripHList xs) = true ∧
      (∀ sd, toWireFieldsH S sd fs (stripHList xs) = toWireFields S sd fs xs) ∧
      (∀ sd ds, normFieldsH S sd fs (stripHList xs) ds = normFields S sd fs xs ds) ∧
      (∀ sd, rtOKFields S sd fs (stripHList xs) = rtOKFields S sd fs xs) ∧
      holdersOKList (stripHList xs) = true ∧ (∀ P, unkOKFields P S fs (stripHList xs) = true) ∧
      fitHList (stripHList xs) = sizesFitList xs) ∧
    (∀ (k v : Ty) (es : List (Val × Val)), hasTyEntries S k v es = true →
      hasTyEntries S k v (stripHEntries es) = true ∧
      toWireEntriesH S k v (stripHEntries es) = toWireEntries S k v es ∧
      (∀ acc, normEntriesH S k v (stripHEntries es) acc = normEntries S k v es acc) ∧
      rtOKEntries S k v (stripHEntries es) = rtOKEntries S k v es ∧
      holdersOKEntries (stripHEntries es) = true ∧ (∀ P, unkOKEntries P S k v (stripHEntries es) = true) ∧
      fitHEntries (stripHEntries es) = sizesFitEntries es) ∧
    (∀ (e : Ty) (xs : List Val), hasTyList S e xs = true →
      hasTyList S e (stripHList xs) = true ∧ toWireListH S e (stripHList xs) = toWireList S e xs ∧
      normListH S e (stripHList xs) = normList S e xs ∧ rtOKList S e (stripHList xs) = rtOKList S e xs ∧
      holdersOKList (stripHList xs) = true ∧ (∀ P, unkOKList P S e (stripHList xs) = true) ∧
      fitHList (stripHList xs) = sizesFitList xs) := by
  apply hasTy_induct (S := S)
  case sc => intro k n _ _ ht; exact ⟨ht, rfl, fun _ => rfl, rfl, rfl, fun _ => rfl, rfl⟩
  case str | enil => intros; exact ⟨rfl, rfl, fun _ => rfl, rfl, rfl, fun _ => rfl, rfl⟩
  case bin => intro n s h; exact ⟨by simpa [stripH, hasTy] using h, rfl, fun _ => rfl, rfl, rfl, fun _ => rfl, rfl⟩
  case nilp => intro e; cases e <;> exact ⟨rfl, rfl, fun _ => rfl, rfl, rfl, fun _ => rfl, rfl⟩
  case ptr =>
    intro e v he _ ih
    refine ⟨?_, ?_, ?_, ?_, ih.2.2.2.2⟩
    · simp only [stripH, hasTy, he, ih, Bool.not_false, Bool.and_self]
    · simp only [stripH, toWireH, toWire, ih]
    · simp only [stripH, normH, norm, ih, implies_true]
    · cases e <;> exact ih.2.2.2.1
  case lst =>
    intro s e n xs hn _ ih
    have he : (stripHList xs).isEmpty = xs.isEmpty := by cases xs <;> rfl
    simp only [stripH, hasTy, toWireH, toWire, normH, norm, rtOK, holdersOK, unkOK, fitH, sizesFit,
      stripHList_length, he, hn, ih, Bool.and_self, implies_true, and_self]
  case mp =>
    intro k v n es hn _ ih
    have he : (stripHEntries es).isEmpty = es.isEmpty := by rcases es with _ | ⟨⟨a, b⟩, r⟩ <;> rfl
    simp only [stripH, hasTy, toWireH, toWire, normH, norm, rtOK, holdersOK, unkOK, fitH, sizesFit,
      stripHEntries_length, he, hn, ih, Bool.and_self, implies_true, and_self]
  case st =>
    intro sid fs h _ _ ih
    refine ⟨?_, ?_, fun d => ?_, ?_, ?_, fun P => ?_, ?_⟩
    · simp [stripH, hasTy, ih.1]
    · simp only [stripH, toWireH, toWire, ih, holderFields_nil, List.append_nil]
    · simp only [stripH, normH, norm, ih]
      cases initDest S sid d with
      | st ds h0 => simp
      | _ => rfl
    · simp only [stripH, rtOK, ih]
    · simp [stripH, holdersOK, serFields, ih]
    · simp [stripH, unkOK, unkFieldsOK, ih]
    · simp [stripH, fitH, sizesFit, serFields, wfFields, ih]
  case lnil => intro e; exact ⟨rfl, rfl, rfl, rfl, rfl, fun _ => rfl, rfl⟩
  case lcons =>
    intro e x r _ _ ihx ihr
    simp only [stripHList, hasTyList, toWireListH, toWireList, normListH, normList, rtOKList, holdersOKList,
      unkOKList, fitHList, sizesFitList, ihx, ihr, Bool.and_self, implies_true, and_self]
  case econs =>
    intro k v a b r _ _ _ iha ihb ihr
    simp only [stripHEntries, hasTyEntries, toWireEntriesH, toWireEntries, normEntriesH, normEntries, rtOKEntries,
      holdersOKEntries, unkOKEntries, fitHEntries, sizesFitEntries, iha, ihb, ihr, Bool.and_self, implies_true, and_self]
  case fnil => exact ⟨rfl, fun _ => rfl, fun _ _ => rfl, fun _ => rfl, rfl, fun _ => rfl, rfl⟩
  case fcons =>
    intro f fr x xr _ _ ihx ihr
    refine ⟨?_, fun sd => ?_, fun sd ds => ?_, fun sd => ?_, ?_, fun P => ?_, ?_⟩
    · simp only [stripHList, hasTyFields, ihx, ihr, Bool.and_self]
    · simp only [stripHList, toWireFieldsH, toWireFields, fieldWritten_stripH, ihx, ihr]
    · cases ds with
      | nil => rfl
      | cons d dr => simp only [stripHList, normFieldsH, normFields, fieldWritten_stripH, ihx, ihr]
    · simp only [stripHList, rtOKFields, fieldWritten_stripH, ihx, ihr]
    · simp only [stripHList, holdersOKList, ihx, ihr, Bool.and_self]
    · simp only [stripHList, unkOKFields, ihx, ihr, Bool.and_self]
    · simp only [stripHList, fitHList, sizesFitList, ihx, ihr]

/- so what is said of `stripH v` holds of a value without holders -/
mutual
theorem stripH_of_noHolder : ∀ v : Val, noHolder v = true → stripH v = v
  | .st fs h, hn => by
    simp only [noHolder, Bool.and_eq_true, List.isEmpty_iff] at hn
    simp only [stripH, stripHList_of_noHolder fs hn.2, hn.1]
  | .ptr v, hn => congrArg Val.ptr (stripH_of_noHolder v hn)
  | .lst n xs, hn => congrArg (Val.lst n) (stripHList_of_noHolder xs hn)
  | .mp n es, hn => congrArg (Val.mp n) (stripHEntries_of_noHolder es hn)
  | .sc _, _ | .str _, _ | .bin _ _, _ | .nilp, _ | .vstr _ _, _ | .vbin _ _, _ => rfl
termination_by structural x => x
theorem stripHList_of_noHolder : ∀ xs : List Val, noHolderList xs = true → stripHList xs = xs
  | [], _ => rfl
  | x :: r, hn => by
    simp only [noHolderList, Bool.and_eq_true] at hn
    simp only [stripHList, stripH_of_noHolder x hn.1, stripHList_of_noHolder r hn.2]
termination_by structural x => x
theorem stripHEntries_of_noHolder : ∀ es : List (Val × Val), noHolderEntries es = true → stripHEntries es = es
  | [], _ => rfl
  | (a, b) :: r, hn => by
    simp only [noHolderEntries, Bool.and_eq_true] at hn
    simp only [stripHEntries, stripH_of_noHolder a hn.1.1, stripH_of_noHolder b hn.1.2,
      stripHEntries_of_noHolder r hn.2]
termination_by structural x => x
end

end Frugal
