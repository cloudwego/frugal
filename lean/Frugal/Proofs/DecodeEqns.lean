/-
  Each function of the decoder once in `bind` / `mapv` form; `decodeType` taken apart into branches over
  the recursive decoder `dt`.  The equations of the big functions `unfold`: `rw [decodeType]` would derive
  its case equations afresh in every declaration that asks for them.
-/
import Frugal.Norm
import Frugal.Proofs.SerFacts
import Frugal.Proofs.Outcome
namespace Frugal
open Outcome

theorem wire_of_fixed (t : TT) (h : specFixed t > 0) : wireFixed t.wire = specFixed t := by
  cases t <;> simp [specFixed, TT.wire] at h ⊢ <;> rfl

theorem fixed_of_wire (t : Ty) (h : wireFixed t.wire > 0) : specFixed t.tt > 0 := by
  unfold Ty.wire at h
  cases ht : t.tt <;> simp [ht, TT.wire, wireFixed, specFixed] at h ⊢

/-- from the string code on, a wire code belongs to one internal tag -/
theorem tt_of_wire {t : Ty} {c : TT} (h : t.wire = c.wire) (hc : 11 ≤ c.wire) : t.tt = c := by
  unfold Ty.wire at h
  generalize t.tt = a at h ⊢
  cases c <;> first
    | exact absurd hc (by decide)
    | (cases a <;> first | rfl | exact absurd h (by decide))

theorem Ty.deref_wire (t : Ty) : t.deref.wire = t.wire := by cases t <;> rfl

/-- the Go value `decodeFixed t` stores for the number read: `b[0] == 1`, `int64(int32(x))`, or the
    number itself -/
def fixedVal (t : TT) (n : Nat) : Nat :=
  match t with
  | .bool => if n = 1 then 1 else 0
  | .enum => sext32to64 n
  | _ => n

theorem decodeFixed_eq (t : TT) (h : specFixed t > 0) (b : Bytes) :
    decodeFixed t b = match rdBE (specFixed t) b with
      | some (n, r) => .ok (.sc (fixedVal t n), r)
      | none => .panic .bounds := by
  cases t <;> first
    | exact absurd h (Nat.lt_irrefl 0)
    | (simp only [decodeFixed, specFixed, rd8_eq, rd16_eq, rd32_eq, rd64_eq]; split <;> simp_all [fixedVal])

theorem readFixed_scalarTV (t : TT) (h : specFixed t > 0) (n : Nat) :
    readFixed t (scalarTV t.wire n) = .ok (.sc (fixedVal t n)) := by
  cases t <;> first | exact absurd h (Nat.lt_irrefl 0) | rfl

section
variable (P : Params) (S : Schema) (dt : Ty → Bytes → Val → Outcome (Val × Bytes))

theorem decodeSlot_eq (g : Bool) (t : Ty) (b : Bytes) (slot : Val) :
    decodeSlot P S dt g t b slot =
      if P.fixedSize t.tt > 0 then
        if (g && decide (b.length < P.fixedSize t.tt)) = true then .err .short
        else (decodeFixed t.tt b).mapv fun p => (wrapPtr t p.1, p.2)
      else (dt t.deref b (freshTarget S t slot)).mapv fun p => (wrapPtr t p.1, p.2) := by
  rcases h1 : decodeFixed t.tt b with ⟨v, r⟩ | e | p <;>
    rcases h2 : dt t.deref b (freshTarget S t slot) with ⟨v', r'⟩ | e' | p' <;>
      simp only [decodeSlot, h1, h2, mapv]

theorem decodeField_eq (total : Nat) (f : Field) (b : Bytes) (slot : Val) :
    decodeField P S total dt f b slot =
      if (P.fixedSize f.ty.tt = 0 && f.nocopy) = true then
        (decodeStr (f.ty.isBinary || (P.binarySeesThroughPtr && f.ty.deref.isBinary)) true total b).mapv
          fun p => (wrapPtr f.ty p.1, p.2)
      else decodeSlot P S dt true f.ty b slot := by
  rcases h : decodeStr (f.ty.isBinary || (P.binarySeesThroughPtr && f.ty.deref.isBinary)) true total b
    with ⟨v, r⟩ | e | p <;> simp only [decodeField, h, mapv]

theorem listLoop_succ (de : Bytes → Outcome (Val × Bytes)) (n : Nat) (b : Bytes) :
    listLoop de (n + 1) b = (de b).bind fun p => (listLoop de n p.2).mapv fun q => (p.1 :: q.1, q.2) := by
  rw [listLoop]
  cases de b with
  | ok p =>
    obtain ⟨v, r⟩ := p
    simp only [Outcome.bind]
    cases listLoop de n r <;> rfl
  | err _ | panic _ => rfl

theorem mapLoop_succ (kt : Ty) (dk dv : Bytes → Outcome (Val × Bytes)) (n : Nat) (b : Bytes) (acc : List (Val × Val)) :
    mapLoop kt dk dv (n + 1) b acc =
      (dk b).bind fun p => (dv p.2).bind fun q => mapLoop kt dk dv n q.2 (mapInsert kt acc p.1 q.1) := by
  rw [mapLoop]
  cases dk b with
  | ok p =>
    obtain ⟨k, r⟩ := p
    simp only [Outcome.bind]
    cases dv r <;> rfl
  | err _ | panic _ => rfl

/-- the skipper's result as the field loop sees it: errors are reclassified, and `skipUnknown`
    recovers from a panic -/
def skipUnknown (t : Nat) (b : Bytes) : Outcome Nat :=
  match skipM P t b with
  | .ok n => .ok n
  | .err e => .err (if e == .depth then .depth else .skip)
  | .panic p => if P.skipRecovers then .err .skip else .panic p

theorem fieldLoop_nil (sd : SDesc) (total cnt : Nat) (st : LoopSt) {x : LoopSt × Bytes} :
    fieldLoop P S sd total dt cnt [] st ≠ .ok x := by
  cases cnt <;> exact nofun

theorem fieldLoop_succ (sd : SDesc) (total cnt : Nat) (tp : UInt8) (r : Bytes) (st : LoopSt) :
    fieldLoop P S sd total dt (cnt + 1) (tp :: r) st =
      if tp = 0 then .ok (st, r) else
      match rd16 r with
      | none => .err .short
      | some (fid, r1) =>
        match lookupKnown sd fid tp.toNat with
        | none =>
          (skipUnknown P tp.toNat r1).bind fun n =>
            fieldLoop P S sd total dt cnt (r1.drop n)
              (if sd.hasHolder then { st with unk := st.unk ++ tp :: (r.take 2 ++ r1.take n) } else st)
        | some (ix, f) =>
          (decodeField P S total dt f r1 (st.fs.getD ix default)).bind fun p =>
            fieldLoop P S sd total dt cnt p.2 { st with fs := st.fs.set ix p.1, seen := f.id :: st.seen } := by
  rw [fieldLoop]
  by_cases h0 : tp = 0
  · rw [if_pos h0, if_pos h0]
  rcases rd16 r with _ | ⟨fid, r1⟩
  · rfl
  simp only
  rcases lookupKnown sd fid tp.toNat with _ | ⟨ix, f⟩
  · simp only [skipUnknown]
    cases skipM P tp.toNat r1 with
    | ok _ | err _ => rfl
    | panic p => cases P.skipRecovers <;> rfl
  · simp only
    rcases decodeField P S total dt f r1 (st.fs.getD ix default) with ⟨v, r2⟩ | e | p <;> rfl

theorem decodeStruct_zero (total sid : Nat) (b : Bytes) (dest : Val) :
    decodeStruct P S total 0 sid b dest = .err .depth := by
  unfold decodeStruct; rfl

theorem decodeStruct_st (total fuel sid : Nat) (b : Bytes) (fs : List Val) (h : Bytes) :
    decodeStruct P S total (fuel + 1) sid b (.st fs h) =
      (fieldLoop P S (S.get sid) total (decodeType P S total fuel) (b.length + 1) b { fs := fs }).bind fun p =>
        match firstMissing (S.get sid).fields p.1.seen with
        | some f => .err (.required f.name)
        | none => .ok (.st p.1.fs (if (S.get sid).hasHolder && p.1.unk.length > 0 then p.1.unk else h), p.2) := by
  unfold decodeStruct
  simp only
  rcases fieldLoop P S (S.get sid) total (decodeType P S total fuel) (b.length + 1) b { fs := fs }
    with ⟨st, r⟩ | e | p <;> rfl

theorem decodeStruct_nonst (total fuel sid : Nat) (b : Bytes) (d : Val)
    (hne : ∀ vs h, d ≠ .st vs h) : decodeStruct P S total (fuel + 1) sid b d = .err .other := by
  cases d <;> first | exact absurd rfl (hne _ _) | (unfold decodeStruct; rfl)

theorem decodeM_eq (sid : Nat) (b : Bytes) (dest : Val) :
    decodeM P S sid b dest =
      (decodeStruct P S b.length P.maxDepth sid b dest).mapv fun p => (p.1, b.length - p.2.length) := by
  rcases h : decodeStruct P S b.length P.maxDepth sid b dest with ⟨v, r⟩ | e | p <;> simp only [decodeM, h, mapv]

/-- `decodeType`, map branch, after the header checks -/
def decodeMapBody (kt vt : Ty) (l : Nat) (r2 : Bytes) : Outcome (Val × Bytes) :=
  let per := P.minWireOf kt.wire + P.minWireOf vt.wire
  if per = 0 then .panic .other
  else if l > r2.length / per then .err .sizeLimit
  else
    match mapLoop kt (fun bb => decodeSlot P S dt true kt bb (zeroVal S S.length kt))
        (fun bb => decodeSlot P S dt true vt bb (zeroVal S S.length vt)) l r2 [] with
    | .ok (es, r3) => .ok (.mp false es, r3)
    | .err e => .err e
    | .panic p => .panic p

/-- `decodeType`, the `.map kt vt` branch -/
def decodeMap (kt vt : Ty) (b : Bytes) : Outcome (Val × Bytes) :=
  match rd8 b with
  | none => .err .short
  | some (t0, r) =>
  match rd8 r with
  | none => .err .short
  | some (t1, r1) =>
  match rd32 r1 with
  | none => .err .short
  | some (l, r2) =>
    if b.length < P.mapHeaderLen then .err .short
    else if l ≥ 2147483648 then .err .negative
    else if t0 ≠ kt.wire ∨ t1 ≠ vt.wire then .err .typeMismatch
    else decodeMapBody P S dt kt vt l r2

/-- `decodeType`, list / set branch, after the header checks -/
def decodeListBody (et : Ty) (l : Nat) (r1 : Bytes) : Outcome (Val × Bytes) :=
  if l = 0 then .ok (.lst false [], r1)
  else
    let per := P.minWireOf et.wire
    if per = 0 then .panic .other
    else if l > r1.length / per then .err .sizeLimit
    else
      match listLoop (fun bb => decodeSlot P S dt false et bb (zeroVal S S.length et)) l r1 with
      | .ok (xs, r2) => .ok (.lst false xs, r2)
      | .err e => .err e
      | .panic p => .panic p

/-- `decodeType`, the `.list _ et` branch -/
def decodeList (et : Ty) (b : Bytes) : Outcome (Val × Bytes) :=
  match rd8 b with
  | none => .err .short
  | some (tp, r) =>
  match rd32 r with
  | none => .err .short
  | some (l, r1) =>
    if b.length < P.listHeaderLen then .err .short
    else if l ≥ 2147483648 then .err .negative
    else if et.wire ≠ tp then .err .typeMismatch
    else decodeListBody P S dt et l r1

theorem decodeType_zero (total : Nat) (t : Ty) (b : Bytes) (dest : Val) :
    decodeType P S total 0 t b dest = .err .depth := by
  unfold decodeType; rfl

theorem decodeType_succ (total fuel : Nat) (t : Ty) (b : Bytes) (dest : Val) :
    decodeType P S total (fuel + 1) t b dest =
      if P.fixedSize t.tt > 0 then
        if b.length < P.fixedSize t.tt then .err .short else decodeFixed t.tt b
      else match t with
        | .base k => if t.tt == .string then decodeStr (k == .binary) false total b else .err .unknownType
        | .map kt vt => decodeMap P S (decodeType P S total fuel) kt vt b
        | .list _ et => decodeList P S (decodeType P S total fuel) et b
        | .strct sid => decodeStruct P S total fuel sid b (initDest S sid dest)
        | .ptr _ => .err .unknownType := by
  unfold decodeType
  cases t <;> first | rfl | (cases dest <;> rfl)

theorem decodeType_map (total fuel : Nat) {kt vt : Ty} (b : Bytes) (dest : Val)
    (h : ¬ P.fixedSize (Ty.map kt vt).tt > 0) :
    decodeType P S total (fuel + 1) (.map kt vt) b dest = decodeMap P S (decodeType P S total fuel) kt vt b := by
  rw [decodeType_succ, if_neg h]

theorem decodeType_list (total fuel : Nat) {s : Bool} {et : Ty} (b : Bytes) (dest : Val)
    (h : ¬ P.fixedSize (Ty.list s et).tt > 0) :
    decodeType P S total (fuel + 1) (.list s et) b dest = decodeList P S (decodeType P S total fuel) et b := by
  rw [decodeType_succ, if_neg h]

theorem decodeMapBody_eq (kt vt : Ty) (l : Nat) (r2 : Bytes) :
    decodeMapBody P S dt kt vt l r2 =
      if P.minWireOf kt.wire + P.minWireOf vt.wire = 0 then .panic .other
      else if l > r2.length / (P.minWireOf kt.wire + P.minWireOf vt.wire) then .err .sizeLimit
      else (mapLoop kt (fun bb => decodeSlot P S dt true kt bb (zeroVal S S.length kt))
        (fun bb => decodeSlot P S dt true vt bb (zeroVal S S.length vt)) l r2 []).mapv
          fun p => (.mp false p.1, p.2) := by
  rcases h : mapLoop kt (fun bb => decodeSlot P S dt true kt bb (zeroVal S S.length kt))
    (fun bb => decodeSlot P S dt true vt bb (zeroVal S S.length vt)) l r2 [] with ⟨es, r⟩ | e | p <;>
    simp only [decodeMapBody, h, mapv]

theorem decodeListBody_eq (et : Ty) (l : Nat) (r1 : Bytes) :
    decodeListBody P S dt et l r1 =
      if l = 0 then .ok (.lst false [], r1)
      else if P.minWireOf et.wire = 0 then .panic .other
      else if l > r1.length / P.minWireOf et.wire then .err .sizeLimit
      else (listLoop (fun bb => decodeSlot P S dt false et bb (zeroVal S S.length et)) l r1).mapv
        fun p => (.lst false p.1, p.2) := by
  rcases h : listLoop (fun bb => decodeSlot P S dt false et bb (zeroVal S S.length et)) l r1
    with ⟨xs, r⟩ | e | p <;> simp only [decodeListBody, h, mapv]

theorem decodeMap_reads (kt vt : Ty) {b r r1 r2 : Bytes} {t0 t1 l : Nat} (h8a : rd8 b = some (t0, r))
    (h8b : rd8 r = some (t1, r1)) (h32 : rd32 r1 = some (l, r2)) :
    decodeMap P S dt kt vt b =
      if b.length < P.mapHeaderLen then .err .short
      else if l ≥ 2147483648 then .err .negative
      else if t0 ≠ kt.wire ∨ t1 ≠ vt.wire then .err .typeMismatch
      else decodeMapBody P S dt kt vt l r2 := by
  simp only [decodeMap, h8a, h8b, h32]

theorem decodeList_reads (et : Ty) {b r r1 : Bytes} {tp l : Nat} (h8 : rd8 b = some (tp, r)) (h32 : rd32 r = some (l, r1)) :
    decodeList P S dt et b =
      if b.length < P.listHeaderLen then .err .short
      else if l ≥ 2147483648 then .err .negative
      else if et.wire ≠ tp then .err .typeMismatch
      else decodeListBody P S dt et l r1 := by
  simp only [decodeList, h8, h32]

variable {P} {S} {dt}

theorem decodeMap_ok {kt vt : Ty} {b : Bytes} {v : Val} {r : Bytes} (h : decodeMap P S dt kt vt b = .ok (v, r)) :
    ∃ l r2 es, b = u8 kt.wire :: u8 vt.wire :: (be32 l ++ r2) ∧ l < 2147483648 ∧
      mapLoop kt (fun bb => decodeSlot P S dt true kt bb (zeroVal S S.length kt))
        (fun bb => decodeSlot P S dt true vt bb (zeroVal S S.length vt)) l r2 [] = .ok (es, r) ∧
      v = .mp false es := by
  unfold decodeMap at h
  split at h
  · cases h
  rename_i t0 r0 h8a
  split at h
  · cases h
  rename_i t1 r1 h8b
  split at h
  · cases h
  rename_i l r2 h32
  obtain ⟨_, h⟩ := ok_of_ite h nofun
  obtain ⟨h2, h⟩ := ok_of_ite h nofun
  obtain ⟨h3, h⟩ := ok_of_ite h nofun
  rw [decodeMapBody_eq] at h
  obtain ⟨_, h⟩ := ok_of_ite h nofun
  obtain ⟨_, h⟩ := ok_of_ite h nofun
  obtain ⟨⟨es, r3⟩, hml, h⟩ := mapv_eq_ok.1 h
  cases h
  refine ⟨l, r2, es, ?_, by omega, hml, rfl⟩
  have e0 : t0 = kt.wire := Decidable.of_not_not fun hh => h3 (Or.inl hh)
  have e1 : t1 = vt.wire := Decidable.of_not_not fun hh => h3 (Or.inr hh)
  rw [← (rd32_inv h32).1, ← e1, ← (rd8_inv h8b).1, ← e0]
  exact (rd8_inv h8a).1

theorem decodeList_ok {et : Ty} {b : Bytes} {v : Val} {r : Bytes} (h : decodeList P S dt et b = .ok (v, r)) :
    ∃ l r1 xs, b = u8 et.wire :: (be32 l ++ r1) ∧ l < 2147483648 ∧
      listLoop (fun bb => decodeSlot P S dt false et bb (zeroVal S S.length et)) l r1 = .ok (xs, r) ∧
      v = .lst false xs := by
  unfold decodeList at h
  split at h
  · cases h
  rename_i tp r0 h8
  split at h
  · cases h
  rename_i l r1 h32
  obtain ⟨_, h⟩ := ok_of_ite h nofun
  obtain ⟨h2, h⟩ := ok_of_ite h nofun
  obtain ⟨h3, h⟩ := ok_of_ite h nofun
  have hb : b = u8 et.wire :: (be32 l ++ r1) := by
    rw [← (rd32_inv h32).1, Decidable.of_not_not h3]
    exact (rd8_inv h8).1
  rw [decodeListBody_eq] at h
  by_cases h0 : l = 0
  · rw [if_pos h0] at h
    cases h
    subst h0
    exact ⟨0, r, [], hb, by omega, rfl, rfl⟩
  rw [if_neg h0] at h
  obtain ⟨_, h⟩ := ok_of_ite h nofun
  obtain ⟨_, h⟩ := ok_of_ite h nofun
  obtain ⟨⟨xs, r3⟩, hll, h⟩ := mapv_eq_ok.1 h
  cases h
  exact ⟨l, r1, xs, hb, by omega, hll, rfl⟩

end
end Frugal
