import Frugal.Proofs.ToWireDefs  -- `hasTy_absurd` is in TypedInduct; this also brings the equation lemmas of `hasTy` it has made: cheaper than making them again
import Frugal.Proofs.ReaderInd
namespace Frugal

theorem readFixed_scalar (k : Kind) (n : Nat) (hk : k ≠ .string) (hb : k ≠ .binary)
    (hbool : k = .bool → n < 2) :
    readFixed k.tt (scalarTVal k n) = .ok (.sc (normScalar k n)) := by
  cases k <;> simp [Kind.tt, scalarTVal, readFixed, normScalar] at *
  split <;> omega

theorem specFixed_scalar (k : Kind) (hk : k ≠ .string) (hb : k ≠ .binary) : specFixed k.tt > 0 := by
  cases k <;> simp [Kind.tt, specFixed] at *

theorem applyInit_typed (S : Schema) : ∀ (fs : List Field) (vs : List Val),
    (∀ f ∈ fs, f.assigned = true → ∀ d, f.dflt = some d → hasTy S f.ty d = true) →
    hasTyFields S fs vs = true → hasTyFields S fs (applyInit fs vs) = true
  | [], [], _, _ => rfl
  | [], _ :: _, _, h | _ :: _, [], _, h => by simp [hasTyFields] at h
  | f :: fr, v :: vr, hd, h => by
    simp only [hasTyFields, Bool.and_eq_true] at h
    simp only [applyInit, hasTyFields, Bool.and_eq_true]
    exact ⟨applyInit_head f v h.1 (hd f (List.mem_cons_self ..)),
      applyInit_typed S fr vr (fun g hg => hd g (List.mem_cons_of_mem _ hg)) h.2⟩

theorem initDest_hasTy (S : Schema) (sid : Nat) (d : Val)
    (hdt : ∀ f ∈ (S.get sid).fields, f.assigned = true → ∀ x, f.dflt = some x → hasTy S f.ty x = true)
    (h : hasTy S (.strct sid) d = true) : hasTy S (.strct sid) (initDest S sid d) = true := by
  refine initDest_cases S sid d h fun vs hh h => ?_
  simp only [hasTy, Bool.and_eq_true] at h ⊢
  exact ⟨h.1, applyInit_typed S _ _ hdt h.2⟩

/-- `initDest_hasTy` and `zeroVal_hasTy` ask what they use of the schema; the `_typed` forms take it from `S.rtSide` -/
theorem initDest_typed (S : Schema) (hside : S.rtSide) (sid : Nat) (d : Val)
    (h : hasTy S (.strct sid) d = true) :
    ∃ ds hh, initDest S sid d = .st ds hh ∧ hasTyFields S (S.get sid).fields ds = true := by
  have hi := initDest_hasTy S sid d (hside.defaultsTyped sid) h
  cases hd : initDest S sid d with
  | st ds hh =>
    rw [hd] at hi
    simp only [hasTy, Bool.and_eq_true] at hi
    exact ⟨ds, hh, rfl, hi.2⟩
  | _ => rw [hd] at hi; hasTy_absurd hi

theorem hasTyFields_length (S : Schema) : ∀ (fs : List Field) (vs : List Val),
    hasTyFields S fs vs = true → vs.length = fs.length
  | [], [], _ => rfl
  | [], _ :: _, h | _ :: _, [], h => by simp [hasTyFields] at h
  | f :: fr, v :: vr, h => by
    simp only [hasTyFields, Bool.and_eq_true] at h
    simp [hasTyFields_length S fr vr h.2]

theorem zeroVal_hasTy (S : Schema) (hz : ∀ sid, hasTy S (.strct sid) (zeroVal S S.length (.strct sid)) = true)
    (t : Ty) : hasTy S t (zeroVal S S.length t) = true := by
  cases t with
  | base k => cases k <;> simp [zeroVal, hasTy, Kind.bits]
  | strct sid => exact hz sid
  | list _ _ | map _ _ | ptr _ => simp [zeroVal, hasTy, hasTyList, hasTyEntries]

theorem zeroVal_typed (S : Schema) (hside : S.rtSide) (t : Ty) : hasTy S t (zeroVal S S.length t) = true :=
  zeroVal_hasTy S hside.zeroOk t

theorem getD_at (done : List Val) (d : Val) (dr : List Val) (n : Nat) (h : done.length = n) :
    (done ++ d :: dr).getD n default = d := by
  subst h
  simp [List.getD_eq_getElem?_getD]

theorem set_at (done : List Val) (d y : Val) (dr : List Val) (n : Nat) (h : done.length = n) :
    (done ++ d :: dr).set n y = (done ++ [y]) ++ dr := by
  subst h
  simp

theorem seenOf_mono (sd : SDesc) : ∀ (fs : List Field) (xs : List Val) (seen : List Nat) (a : Nat),
    a ∈ seen → a ∈ seenOf sd fs xs seen
  | [], _, _, _, h | _ :: _, [], _, _, h => by simpa [seenOf] using h
  | f :: fr, x :: xr, seen, a, h => by
    apply seenOf_mono sd fr xr
    split
    · exact List.mem_cons_of_mem _ h
    · exact h

theorem seenOf_required (S : Schema) (sd : SDesc) : ∀ (fs : List Field) (xs : List Val) (seen : List Nat),
    hasTyFields S fs xs = true → ∀ f ∈ fs, f.req = .required → f.id ∈ seenOf sd fs xs seen
  | [], _, _, _, _, hf, _ => by cases hf
  | _ :: _, [], _, h, _, _, _ => by simp [hasTyFields] at h
  | g :: fr, x :: xr, seen, h, f, hf, hr => by
    simp only [hasTyFields, Bool.and_eq_true] at h
    simp only [seenOf]
    rcases List.mem_cons.1 hf with rfl | hf
    · apply seenOf_mono
      simp [fieldWritten, hr]
    · exact seenOf_required S sd fr xr _ h.2 f hf hr

section
variable (P : Params) (S : Schema) (total : Nat)

theorem readSlot_nonptr (fuel : Nat) (t : Ty) (X : TVal) (tail : Nat) (slot : Val) (ht : t.isPtr = false) :
    readSlot P S total fuel t X tail slot =
      if specFixed t.tt > 0 then readFixed t.tt X else readVal P S total fuel t X tail slot := by
  have hw : wrapPtr t = fun x => x := by funext x; simp only [wrapPtr, ht, Bool.false_eq_true, ↓reduceIte]
  rw [readSlot_eq, hw, mapv_id', deref_nonptr ht, freshTarget, ht]
  rfl

theorem readSlot_ptr (fuel : Nat) (e : Ty) (X : TVal) (tail : Nat) (slot : Val) (he : e.isPtr = false) :
    readSlot P S total fuel (.ptr e) X tail slot =
      (readSlot P S total fuel e X tail (zeroVal S S.length e)).mapv .ptr := by
  rw [readSlot_nonptr P S total _ _ _ _ _ he, readSlot_eq]
  rfl

theorem readSlot_nonfixed (fuel : Nat) (t : Ty) (X : TVal) (tail : Nat) (slot : Val)
    (ht : t.isPtr = false) (hfx : specFixed t.tt = 0) :
    readSlot P S total fuel t X tail slot = readVal P S total fuel t X tail slot := by
  rw [readSlot_nonptr P S total _ _ _ _ _ ht, if_neg (by omega)]

theorem readVal_list_or_set (f : Nat) (s : Bool) (e : Ty) (L : List TVal) (tail : Nat) (slot : Val) :
    readVal P S total (f + 1) (.list s e) (if s then .set e.wire L else .list e.wire L) tail slot =
      (readList P S total f e L tail).mapv (.lst false) := by
  cases s <;> simp [readVal_list, readVal_set]

theorem readSlot_string (f : Nat) (k : Kind) (hk : k.tt = .string) (s : Bytes) (tail : Nat) (slot : Val) :
    readSlot P S total (f + 1) (.base k) (.str s) tail slot =
      .ok (if k == .binary then .bin false s else .str s) := by
  have hfx : specFixed (Ty.base k).tt = 0 := by simp only [Ty.tt, hk, specFixed]
  rw [readSlot_nonfixed P S total _ _ _ _ _ rfl hfx, readVal_str P S total hk]
  cases s <;> rfl

end
end Frugal
