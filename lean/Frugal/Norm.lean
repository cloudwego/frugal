/-
  Norm.lean — the documented normalisation of a round trip (C01), as a function: what a value `v`
  of type `t` comes back as when its encoding is decoded into a destination slot holding `dest`.

    * scalars, strings, binaries: themselves (an enum: its low 32 bits sign-extended; a nil binary:
      empty);
    * a pointer: a fresh allocation holding the pointee's normal form; a nil struct pointer that was
      written: a fresh empty (default-initialised) struct;
    * a list / set: non-nil, elements in order; a map: non-nil, entries inserted in iteration order;
    * a struct: the destination (after `InitDefault()` when declared) with every *written* field
      replaced by its normal form, every omitted field left as the destination had it.

  `Proofs/RoundTrip.lean` proves that the reference reader computes exactly this on the denotation
  of every well-typed value, and `Props/C01.lean` composes it with C02 and C03.
-/
import Frugal.Reader
namespace Frugal

def normScalar (k : Kind) (n : Nat) : Nat :=
  if k == .enum then sext32to64 (n % 4294967296) else n

/-- the destination struct as the decoder finds it when it starts on it -/
def initDest (S : Schema) (sid : Nat) : Val → Val
  | .st vs h => if (S.get sid).hasInit then .st (applyInit (S.get sid).fields vs) h else .st vs h
  | d => d

mutual
def norm (S : Schema) : Ty → Val → Val → Val
  | .base k, .sc n, _ => .sc (normScalar k n)
  | .base _, .str s, _ => .str s
  | .base _, .bin _ s, _ => .bin false s
  | .ptr e, .ptr v, _ => .ptr (norm S e v (zeroVal S S.length e))
  | .ptr (.strct sid), .nilp, _ => .ptr (initDest S sid (zeroVal S S.length (.strct sid)))
  | .list _ e, .lst _ xs, _ => .lst false (normList S e xs)
  | .map k v, .mp _ es, _ => .mp false (normEntries S k v es [])
  | .strct sid, .st xs _, dest =>
      match initDest S sid dest with
      | .st ds h => .st (normFields S (S.get sid) (S.get sid).fields xs ds) h
      | d => d
  | _, v, _ => v
def normList (S : Schema) (e : Ty) : List Val → List Val
  | [] => []
  | x :: r => norm S e x (zeroVal S S.length e) :: normList S e r
def normEntries (S : Schema) (k v : Ty) : List (Val × Val) → List (Val × Val) → List (Val × Val)
  | [], acc => acc
  | (a, b) :: r, acc =>
      normEntries S k v r
        (mapInsert k acc (norm S k a (zeroVal S S.length k)) (norm S v b (zeroVal S S.length v)))
def normFields (S : Schema) (sd : SDesc) : List Field → List Val → List Val → List Val
  | f :: fr, x :: xr, d :: dr =>
      (if fieldWritten sd f x then norm S f.ty x d else d) :: normFields S sd fr xr dr
  | _, _, ds => ds
end

/-- the ids the decoder has seen after reading the written fields -/
def seenOf (sd : SDesc) : List Field → List Val → List Nat → List Nat
  | f :: fr, x :: xr, seen => seenOf sd fr xr (if fieldWritten sd f x then f.id :: seen else seen)
  | _, _, seen => seen

/- A nil struct pointer that is written goes out as an empty struct; a reader can only accept that
   when the struct has no required fields (Thrift semantics: required fields are always set). -/
mutual
def rtOK (S : Schema) : Ty → Val → Bool
  | .ptr (.strct sid), .nilp => (S.get sid).fields.all (fun f => f.req != .required)
  | .ptr e, .ptr v => rtOK S e v
  | .list _ e, .lst _ xs => rtOKList S e xs
  | .map k v, .mp _ es => rtOKEntries S k v es
  | .strct sid, .st xs _ => rtOKFields S (S.get sid) (S.get sid).fields xs
  | _, _ => true
def rtOKList (S : Schema) (e : Ty) : List Val → Bool
  | [] => true
  | x :: r => rtOK S e x && rtOKList S e r
def rtOKEntries (S : Schema) (k v : Ty) : List (Val × Val) → Bool
  | [] => true
  | (a, b) :: r => rtOK S k a && rtOK S v b && rtOKEntries S k v r
def rtOKFields (S : Schema) (sd : SDesc) : List Field → List Val → Bool
  | f :: fr, x :: xr => (!fieldWritten sd f x || rtOK S f.ty x) && rtOKFields S sd fr xr
  | _, _ => true
end

/-- side conditions on the schema that Go's type system guarantees for every real program: the
    declared defaults are values of their field's type, by-value struct nesting is acyclic (so the
    zero value of every struct is a finite tree), field ids are pairwise distinct (guaranteed by the
    resolver, `resolveStruct_fields`); and no field is `nocopy` (those alias the input: C06) -/
structure Schema.rtSide (S : Schema) : Prop where
  distinct : ∀ sid, (S.get sid).fields.Pairwise (fun a b => a.id ≠ b.id)
  noNocopy : ∀ sid, ∀ f ∈ (S.get sid).fields, f.nocopy = false
  defaultsTyped : ∀ sid, ∀ f ∈ (S.get sid).fields, f.assigned = true → ∀ d, f.dflt = some d → hasTy S f.ty d = true
  zeroOk : ∀ sid, hasTy S (.strct sid) (zeroVal S S.length (.strct sid)) = true

end Frugal

namespace Frugal
/-- normal form at the top level: `DecodeObject` does not re-initialise its destination -/
def normTop (S : Schema) (sid : Nat) : Val → Val → Val
  | .st xs _, .st ds h => .st (normFields S (S.get sid) (S.get sid).fields xs ds) h
  | _, d => d
end Frugal
