/-
  Basic.lean — bytes, big-endian codecs (written out byte by byte, in arithmetic form; their round
  trips are in Proofs/BigEndian.lean), the `Outcome` type used by every partial Go operation we model.
-/
namespace Frugal

abbrev Bytes := List UInt8

/-- low byte of a natural number -/
def u8 (n : Nat) : UInt8 := UInt8.ofNat (n % 256)

@[simp] theorem u8_toNat (n : Nat) : (u8 n).toNat = n % 256 := by
  simp [u8, UInt8.toNat_ofNat']

def be16 (n : Nat) : Bytes := [u8 (n / 256), u8 n]
def be32 (n : Nat) : Bytes := [u8 (n / 16777216), u8 (n / 65536), u8 (n / 256), u8 n]
def be64 (n : Nat) : Bytes :=
  [u8 (n / 72057594037927936), u8 (n / 281474976710656), u8 (n / 1099511627776), u8 (n / 4294967296),
   u8 (n / 16777216), u8 (n / 65536), u8 (n / 256), u8 n]

@[simp] theorem be16_length (n : Nat) : (be16 n).length = 2 := rfl
@[simp] theorem be32_length (n : Nat) : (be32 n).length = 4 := rfl
@[simp] theorem be64_length (n : Nat) : (be64 n).length = 8 := rfl

/-- readers return the value and the rest; `none` when the input is too short
    (the Go code would index out of range there). -/
def rd8 : Bytes → Option (Nat × Bytes)
  | a :: r => some (a.toNat, r)
  | _ => none

def rd16 : Bytes → Option (Nat × Bytes)
  | a :: b :: r => some (a.toNat * 256 + b.toNat, r)
  | _ => none

def rd32 : Bytes → Option (Nat × Bytes)
  | a :: b :: c :: d :: r => some (a.toNat * 16777216 + b.toNat * 65536 + c.toNat * 256 + d.toNat, r)
  | _ => none

def rd64 : Bytes → Option (Nat × Bytes)
  | a :: b :: c :: d :: e :: f :: g :: h :: r =>
      some (a.toNat * 72057594037927936 + b.toNat * 281474976710656 + c.toNat * 1099511627776
            + d.toNat * 4294967296 + e.toNat * 16777216 + f.toNat * 65536 + g.toNat * 256 + h.toNat, r)
  | _ => none

/-- The result of a modelled Go call: a normal return, a returned `error`, or a run-time panic.
    Partial Go operations (`b[i]`, `b[i:]`, nil dereference) are modelled as `panic`, never totalised. -/
inductive ErrKind
  | short | negative | sizeLimit | typeMismatch | depth | skip | required (name : String)
  | unknownType | other
  deriving Repr, DecidableEq, Inhabited

inductive PanicKind
  | bounds | nilDeref | other
  deriving Repr, DecidableEq, Inhabited

inductive Outcome (α : Type)
  | ok (a : α)
  | err (k : ErrKind)
  | panic (k : PanicKind)
  deriving Repr, Inhabited

namespace Outcome
def bind {α β} (x : Outcome α) (f : α → Outcome β) : Outcome β :=
  match x with
  | ok a => f a
  | err k => err k
  | panic k => panic k
instance : Monad Outcome where
  pure := ok
  bind := bind
def isPanic {α} : Outcome α → Bool
  | panic _ => true
  | _ => false
def isOk {α} : Outcome α → Bool
  | ok _ => true
  | _ => false
end Outcome

/-- two's complement reading of a 32-bit pattern -/
def isNeg32 (n : Nat) : Bool := n ≥ 2147483648

/-- sign extension of a 32-bit pattern to a 64-bit pattern (`int64(int32(x))`) -/
def sext32to64 (n : Nat) : Nat := if n ≥ 2147483648 then n + 18446744069414584320 else n

end Frugal
