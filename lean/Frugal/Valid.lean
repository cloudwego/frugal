/-
  Valid.lean — the decidable side conditions (`Params.valid`) under which the generic
  theorems hold.  `Generated.params` is checked against them by `decide` in
  `Props/Inst/F_valid_*.lean`; every conjunct is named so that a failing `decide` identifies the
  constant or table entry that changed.
-/
import Frugal.Encode
namespace Frugal

def TT.all : List TT := [.bool, .byte, .double, .i16, .i32, .i64, .string, .strct, .map, .set, .list, .enum]

/-- wire size of fixed-size kinds (0 = not fixed) -/
def specFixed : TT → Nat
  | .bool => 1 | .byte => 1 | .double => 8 | .i16 => 2 | .i32 => 4 | .i64 => 8 | .enum => 4
  | _ => 0

def specSimple : TT → Bool
  | .bool | .byte | .double | .i16 | .i32 | .i64 | .enum | .string => true
  | _ => false

def specContainer : TT → Bool
  | .map | .set | .list => true
  | _ => false

/-- the writer operation that is correct for an element / key / value of tag `t` -/
def expectedOp : TT → WOp
  | .bool => .byte | .byte => .byte | .i16 => .u16 | .i32 => .u32 | .i64 => .u64 | .double => .u64
  | .enum => .enum32 | .string => .str
  | _ => .dispatch

/-- is `w` a correct writer for tag `t`?  (`boolNorm` and `byte` agree on valid Go bools) -/
def opOK (t : TT) (w : WOp) : Bool :=
  w.isRec || w == expectedOp t || (t == .bool && w == .boolNorm)

/-- the Go type a typed-range routine may cast the key / value to: same size and layout -/
def castOK (t : TT) (c : Cast) : Bool :=
  c == .iter ||
  (match t with
   | .bool => c == .bool | .byte => c == .u8 | .i16 => c == .u16 | .i32 => c == .u32
   | .i64 => c == .u64 || c == .i64 | .double => c == .u64 | .enum => c == .i64 || c == .u64
   | .string => c == .str      -- only for Go `string`; []byte values are excluded by the guard
   | _ => false)

/-- … and for the *key* of a typed `range` also the same hash function: while it iterates a map that
    is growing the runtime rehashes keys with the hasher of the map type it was given.  `float64` keys
    hash by value (`f64hash`), integers by their bytes, so a `map[float64]V` ranged as `map[uint64]V`
    loses and repeats entries mid-growth (D13: "map size changed during encoding" on a valid value) -/
def keyCastOK (t : TT) (c : Cast) : Bool :=
  castOK t c && (t != .double || c == .iter)

def routineOK (k v : TT) (r : MapRoutine) : Bool :=
  opOK k r.kw && opOK v r.vw && keyCastOK k r.castK && castOK v r.castV &&
  ((r.castK == .iter) == (r.castV == .iter))

namespace Params

def validSizes (P : Params) : Bool := TT.all.all fun t => P.fixedSize t == specFixed t
def validSimple (P : Params) : Bool := TT.all.all fun t => P.simple t == specSimple t
def validContainer (P : Params) : Bool := TT.all.all fun t => P.container t == specContainer t
def validHeaders (P : Params) : Bool :=
  P.fieldHeaderLen == 3 && P.mapHeaderLen == 6 && P.listHeaderLen == 5 && P.strHeaderLen == 4
def validList (P : Params) : Bool := TT.all.all fun t => opOK t (P.listRoutine t)
def validMap (P : Params) : Bool :=
  TT.all.all fun k => TT.all.all fun v =>
    routineOK k v (P.mapRoutine k v false) &&
    -- binary values (tag string, Go type []byte) must not take a typed-range routine
    (v != .string || (P.mapRoutine k v true).castV == .iter && routineOK k v (P.mapRoutine k v true))

/-- every wire type's minimum size is positive and not larger than the shortest encoding -/
def minSer : Nat → Nat
  | 2 => 1 | 3 => 1 | 4 => 8 | 6 => 2 | 8 => 4 | 10 => 8 | 11 => 4 | 12 => 1 | 13 => 6 | 14 => 5 | 15 => 5
  | _ => 0
def wireCodes : List Nat := [2, 3, 4, 6, 8, 10, 11, 12, 13, 14, 15]
def validMinWire (P : Params) : Bool :=
  wireCodes.all fun w => 0 < P.minWireOf w && P.minWireOf w ≤ minSer w
/-- fixed-size kinds: the count check alone guarantees the unguarded list element reads -/
def validMinWireFixed (P : Params) : Bool :=
  TT.all.all fun t => specFixed t == 0 || P.minWireOf t.wire == specFixed t

def validSkip (P : Params) : Bool :=
  P.skipRecovers && P.skipDepth == 64 &&
  (List.range 128).all fun w => P.skipFixedOf w == (if w ∈ [2, 3] then 1 else if w = 6 then 2 else if w = 8 then 4 else if w ∈ [4, 10] then 8 else 0)

def validDepth (P : Params) : Bool := 96 ≤ P.maxDepth && P.maxDepth ≤ 4096

def validBitset (P : Params) : Bool :=
  2 ^ P.bsShift == P.bsMask + 1 && 65536 ≤ P.bsWords * 2 ^ P.bsShift && P.bsShift ≤ 6

def validSpan (P : Params) : Bool := 0 < P.blockSize && 0 < P.directDiv

def valid (P : Params) : Bool :=
  P.validSizes && P.validSimple && P.validContainer && P.validHeaders && P.validList && P.validMap &&
  P.validMinWire && P.validMinWireFixed && P.validSkip && P.validDepth && P.validBitset && P.validSpan &&
  P.mapBinaryGuard && P.binarySeesThroughPtr

end Params
end Frugal
